import Spdc.Real.Quad
import Mathlib.Analysis.SpecialFunctions.Integrals.Basic
import Mathlib.Algebra.Polynomial.Degree.Lemmas
import Mathlib.Topology.Algebra.Polynomial
/-!
# Node/weight rules (Gauss–Legendre as used by `Integrator::GaussLegendre`): exactness from the
moment equations, linearity of the real rule (C12)
-/
open Polynomial
namespace Spdc.Quad

theorem rulePow_real (x : ℝ) (k : ℕ) : rulePow x k = x ^ k := by
  induction k with
  | zero => simp [rulePow, lit_one]
  | succ k ih => simp [rulePow, ih, pow_succ]

theorem ruleMoment_real (nodes weights : List ℝ) (k : ℕ) :
    ruleMoment nodes weights k = ((nodes.zip weights).map fun xw => xw.2 * xw.1 ^ k).sum := by
  simp [ruleMoment, sumList_eq, rulePow_real]

theorem ruleApplyR_real (nodes weights : List ℝ) (g : ℝ → ℝ) (a b : ℝ) :
    ruleApplyR nodes weights g a b
      = (b - a) / 2 * ((nodes.zip weights).map fun xw => g ((b - a) / 2 * xw.1 + (b + a) / 2) * xw.2).sum := by
  simp only [ruleApplyR, sumList_eq, lit_half]
  congr 1
  · ring
  · congr 1; apply List.map_congr_left; intro xw _; congr 2; ring

theorem rule_exact_unit (nodes weights : List ℝ) (m : ℕ)
    (hmom : ∀ k, k ≤ m → ruleMoment nodes weights k = ∫ x in (-1 : ℝ)..1, x ^ k) :
    ∀ q : ℝ[X], q.natDegree ≤ m →
      ((nodes.zip weights).map fun xw => q.eval xw.1 * xw.2).sum = ∫ x in (-1 : ℝ)..1, q.eval x := by
  -- both sides are additive in `q`, and on a monomial they are the moment equation
  refine induction_with_natDegree_le _ m ?_ (fun k r _ hk => ?_) (fun f g _ _ hf hg => ?_)
  · simp
  · simp only [eval_mul, eval_C, eval_pow, eval_X]
    rw [intervalIntegral.integral_const_mul, ← hmom k hk, ruleMoment_real, ← List.sum_map_mul_left]
    exact congrArg List.sum (List.map_congr_left fun xw _ => by ring)
  · simp only [eval_add, add_mul, List.sum_map_add, hf, hg]
    exact (intervalIntegral.integral_add (f.continuous.intervalIntegrable _ _)
      (g.continuous.intervalIntegrable _ _)).symm

/-- pulled back to `[−1, 1]` by `x = c·t + e` the polynomial keeps its degree, each of its monomials is
integrated exactly, and the change of variables brings the integral back to `[a, b]` (either orientation) -/
theorem ruleApplyR_exact (nodes weights : List ℝ) (m : ℕ)
    (hmom : ∀ k, k ≤ m → ruleMoment nodes weights k = ∫ x in (-1 : ℝ)..1, x ^ k)
    (p : ℝ[X]) (hp : p.natDegree ≤ m) (a b : ℝ) :
    ruleApplyR nodes weights (fun x => p.eval x) a b = ∫ x in a..b, p.eval x := by
  have hq : (p.comp (C ((b - a) / 2) * X + C ((b + a) / 2))).natDegree ≤ m :=
    calc _ ≤ p.natDegree * (C ((b - a) / 2) * X + C ((b + a) / 2) : ℝ[X]).natDegree := natDegree_comp_le
      _ ≤ m * 1 := Nat.mul_le_mul hp natDegree_linear_le
      _ = m := mul_one m
  have h := rule_exact_unit nodes weights m hmom _ hq
  simp only [eval_comp, eval_add, eval_mul, eval_C, eval_X] at h
  rw [ruleApplyR_real, h, intervalIntegral.mul_integral_comp_mul_add (f := fun x => p.eval x)]
  congr 1 <;> ring

theorem ruleApplyR_add (nodes weights : List ℝ) (g h : ℝ → ℝ) (a b : ℝ) :
    ruleApplyR nodes weights (fun x => g x + h x) a b
      = ruleApplyR nodes weights g a b + ruleApplyR nodes weights h a b := by
  simp only [ruleApplyR_real, ← mul_add, add_mul, List.sum_map_add]

theorem ruleApplyR_smul (nodes weights : List ℝ) (r : ℝ) (g : ℝ → ℝ) (a b : ℝ) :
    ruleApplyR nodes weights (fun x => r * g x) a b = r * ruleApplyR nodes weights g a b := by
  simp only [ruleApplyR_real, mul_assoc, List.sum_map_mul_left]
  ring

theorem ruleApplyR_sub (nodes weights : List ℝ) (g h : ℝ → ℝ) (a b : ℝ) :
    ruleApplyR nodes weights (fun x => g x - h x) a b
      = ruleApplyR nodes weights g a b - ruleApplyR nodes weights h a b := by
  have : (fun x => g x - h x) = fun x => g x + (-1) * h x := by funext x; ring
  rw [this, ruleApplyR_add, ruleApplyR_smul]; ring

theorem ruleApplyR_mul_const (nodes weights : List ℝ) (r : ℝ) (g : ℝ → ℝ) (a b : ℝ) :
    ruleApplyR nodes weights (fun x => g x * r) a b = ruleApplyR nodes weights g a b * r := by
  have : (fun x => g x * r) = fun x => r * g x := by funext x; ring
  rw [this, ruleApplyR_smul]; ring

/-- the real polynomial with the given coefficient list (lowest first) -/
noncomputable def listPoly (l : List ℝ) : ℝ[X] := l.foldr (fun c acc => acc * X + C c) 0

theorem listPoly_natDegree (l : List ℝ) : (listPoly l).natDegree ≤ l.length - 1 := by
  induction l with
  | nil => simp [listPoly]
  | cons c l ih =>
    have : listPoly (c :: l) = listPoly l * X + C c := rfl
    rw [this]
    refine (natDegree_add_le _ _).trans (max_le ?_ (by simp))
    rcases l with _ | ⟨c', l'⟩
    · simp [listPoly]
    · refine (natDegree_mul_le).trans ?_
      simp only [natDegree_X, List.length_cons] at ih ⊢
      omega

theorem polyEval_eq (cs : List (Cx ℝ)) (x : ℝ) :
    polyEval cs x = ⟨(listPoly (cs.map Cx.re)).eval x, (listPoly (cs.map Cx.im)).eval x⟩ := by
  induction cs with
  | nil => simp [polyEval, listPoly, Cx.zero, lit_zero]
  | cons c cs ih =>
    rw [show polyEval (c :: cs) x = Cx.add (Cx.muls (polyEval cs x) x) c from rfl, ih]
    simp [listPoly, Cx.add, Cx.muls]

/-- the `cubicAnti` differences of the exactness theorems are the integrals -/
theorem integral_cubic (c0 c1 c2 c3 : ℂ) (a b : ℝ) :
    ∫ x in a..b, cubic c0 c1 c2 c3 (x : ℂ) = cubicAnti c0 c1 c2 c3 b - cubicAnti c0 c1 c2 c3 a := by
  refine intervalIntegral.integral_eq_sub_of_hasDerivAt (f := fun y : ℝ => cubicAnti c0 c1 c2 c3 (y : ℂ))
    (fun x _ => ?_)
    ((by unfold cubic; fun_prop : Continuous fun x : ℝ => cubic c0 c1 c2 c3 (x : ℂ)).intervalIntegrable _ _)
  -- `cubicAnti` differentiated term by term along `ℝ → ℂ`
  have hx : HasDerivAt (fun y : ℝ => (y : ℂ)) 1 x := (hasDerivAt_id x).ofReal_comp
  convert (((hx.const_mul c0).add ((hx.pow 2).const_mul (c1 / 2))).add
    ((hx.pow 3).const_mul (c2 / 3))).add ((hx.pow 4).const_mul (c3 / 4)) using 1
  · funext y; simp only [cubicAnti, Pi.add_apply, Pi.pow_apply]; ring
  · simp only [cubic]; push_cast; ring

end Spdc.Quad
