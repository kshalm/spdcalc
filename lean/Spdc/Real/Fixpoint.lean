import Spdc.Real.ConfigFlow
/-!
# The parts of the configuration fix-point over ℝ (C16-T2,
`asConfig (tryAsSpdc (asConfig s)) = asConfig s`): crystal, beams, apodization, poling
-/
namespace Spdc.Cfg
open Spdc.Outcome

theorem crystal_fix (c : Crystal ℝ) : c.toCfg.toSetup.toCfg = c.toCfg := by
  simp [Crystal.toCfg, CrystalCfg.toSetup, deg_roundtrip, micro_roundtrip, sigfigs_idem]

/-- angles whose rounded values stay inside the canonical intervals (so that the `Beam`
constructor's normalisation is the identity on them) -/
structure StableAngles (b : Beam ℝ) : Prop where
  phi0 : 0 ≤ sigfigs (b.phi / deg)
  phi1 : sigfigs (b.phi / deg) < 360
  th0 : -180 < sigfigs (b.theta / deg)
  th1 : sigfigs (b.theta / deg) ≤ 180

/-- setups in the statement's domain: produced from a configuration (waist positions stored as
`-|focus|`, period stored as a magnitude), beam angles that are not rounded across the end of their
canonical interval, and `λs > λp` still after rounding -/
structure Canonical (s : Setup ℝ) : Prop where
  signal : StableAngles s.signal
  idler : StableAngles s.idler
  wps : s.signalWaistPos ≤ 0
  wpi : s.idlerWaistPos ≤ 0
  period : ∀ p neg a, s.pp = .on p neg a → 0 ≤ p
  wavelengths : sigfigs (s.pump.wavelength / nano) < sigfigs (s.signal.wavelength / nano)

theorem beam_fix (ext : Ext ℝ) (b : Beam ℝ) (wp : ℝ) (pol : PM.Pol) (c : Crystal ℝ)
    (ha : StableAngles b) (hw : wp ≤ 0) :
    ((b.toCfg wp true).tryAsBeam ext pol c).map
        (fun b' => b'.toCfg (-(Transc.abs (sigfigs (wp / micro))) * micro) true)
      = .ok (b.toCfg wp true) := by
  have h : sigfigs (wp / micro) ≤ 0 := sigfigs_nonpos (div_nonpos_of_nonpos_of_nonneg hw micro_pos.le)
  simp only [Beam.toCfg, BeamCfg.tryAsBeam, Beam.setAngles, Beam.new, map_ok,
    wrap360_of_mem ha.phi0 ha.phi1, phi_readback ⟨ha.phi0, ha.phi1⟩, theta_readback ⟨ha.th0, ha.th1⟩,
    Beam.wavelength, wl_roundtrip, nano_roundtrip, micro_roundtrip, sigfigs_idem, if_true, abs_eq,
    abs_of_nonpos h, neg_neg]

theorem apod_fix (a : Apod ℝ) : (Apod.ofCfg (Apod.toCfg a)).toCfg = Apod.toCfg a := by
  cases a <;> simp [Apod.toCfg, Apod.ofCfg, micro_roundtrip, sigfigs_idem]

theorem poling_fix (ext : Ext ℝ) (pp : Poling ℝ) (signal pump : Beam ℝ) (c : Crystal ℝ)
    (hl : lsLeLp signal pump = false) (hsign : ∃ neg, ext.signNeg signal pump c = .ok neg)
    (hper : ∀ p neg a, pp = .on p neg a → 0 ≤ p) :
    (pp.toCfg.tryAsPoling ext signal pump c).map Poling.toCfg = .ok pp.toCfg := by
  cases pp with
  | off => rfl
  | on p neg a =>
    obtain ⟨neg', hneg⟩ := hsign
    have h : 0 ≤ sigfigs (p / micro) :=
      sigfigs_nonneg (div_nonneg (hper p neg a rfl) micro_pos.le)
    rw [Poling.toCfg, PolingCfg.tryAsPoling, computeSign_of_guard hl, hneg, map_ok, map_ok,
      signMul_mul, abs_eq, abs_of_nonneg h, Poling.new_signMul_toCfg (mul_nonneg h micro_pos.le),
      micro_roundtrip, sigfigs_idem, apod_fix]

end Spdc.Cfg
