import Spdc.Model.Num
/-!
# Equations of `Outcome.map` / `Outcome.bind`

`Outcome` is the model's rendering of a Rust call that may return `Err` or panic; the composed model
chains the layers with `bind` and `map`.  The proofs go through these equations instead of splitting
an `Outcome` by hand: `bind_congr` / `map_congr` lift a fact about the values through a chain,
`bind_eq_ok` / `map_eq_ok` invert a successful one, `NP` ("does not panic") is preserved by both.

Naming of the lemmas about a model function `X` with an `Outcome` result, throughout `Spdc/Real`:
`X_isOk : ∃ v, X … = .ok v` (it returns), `X_eq_ok : X … = .ok (the value)` (what it returns),
`X_ok : X … = .ok v → …` (what a returned value satisfies).  The inversions `bind_eq_ok`, `map_eq_ok`
above are iffs.  `map_ok`, `bind_ok`, `np_ok`, `costOf_ok`,
`collectOutcomes_map_ok` are a function at the constructor `ok`, as `Option.map_some`; `map_isOk` and
`Quad.simpsonDivs_isOk` / `simpson2dDivs_isOk` are about the Boolean `isOk`, not the `∃` form.
-/
namespace Spdc.Outcome
variable {β γ δ : Type}

@[simp] theorem map_ok (f : β → γ) (b : β) : (ok b).map f = ok (f b) := rfl
@[simp] theorem map_err (f : β → γ) (e : String) : (err e : Outcome β).map f = err e := rfl
@[simp] theorem map_panic (f : β → γ) (s : String) : (panic s : Outcome β).map f = panic s := rfl
@[simp] theorem bind_ok (b : β) (f : β → Outcome γ) : (ok b).bind f = f b := rfl
@[simp] theorem bind_err (e : String) (f : β → Outcome γ) : (err e : Outcome β).bind f = err e := rfl
@[simp] theorem bind_panic (s : String) (f : β → Outcome γ) : (panic s : Outcome β).bind f = panic s := rfl

theorem map_id (x : Outcome β) : x.map id = x := by
  cases x <;> rfl

theorem map_map (x : Outcome β) (f : β → γ) (g : γ → δ) : (x.map f).map g = x.map fun b => g (f b) := by
  cases x <;> rfl

theorem bind_map (x : Outcome β) (f : β → γ) (g : γ → Outcome δ) :
    (x.map f).bind g = x.bind fun b => g (f b) := by
  cases x <;> rfl

theorem map_bind (x : Outcome β) (f : β → Outcome γ) (g : γ → δ) :
    (x.bind f).map g = x.bind fun b => (f b).map g := by
  cases x <;> rfl

theorem bind_ok_comp (x : Outcome β) (f : β → γ) : (x.bind fun b => ok (f b)) = x.map f := by
  cases x <;> rfl

theorem bind_congr {x : Outcome β} {f g : β → Outcome γ} (h : ∀ b, x = ok b → f b = g b) :
    x.bind f = x.bind g := by
  cases x with
  | ok b => exact h b rfl
  | err e => rfl
  | panic s => rfl

theorem map_congr {x : Outcome β} {f g : β → γ} (h : ∀ b, x = ok b → f b = g b) :
    x.map f = x.map g := by
  cases x with
  | ok b => exact congrArg ok (h b rfl)
  | err e => rfl
  | panic s => rfl

theorem bind_eq_ok {x : Outcome β} {f : β → Outcome γ} {c : γ} :
    x.bind f = .ok c ↔ ∃ b, x = .ok b ∧ f b = .ok c := by
  cases x <;> simp

theorem map_eq_ok {x : Outcome β} {f : β → γ} {c : γ} :
    x.map f = .ok c ↔ ∃ b, x = .ok b ∧ f b = c := by
  cases x <;> simp

theorem map_isOk (f : β → γ) (x : Outcome β) : (x.map f).isOk = x.isOk := by
  cases x <;> rfl

theorem map_isPanic (f : β → γ) (x : Outcome β) : (x.map f).isPanic = x.isPanic := by
  cases x <;> rfl

/-- "does not panic" -/
def NP (x : Outcome β) : Prop := x.isPanic = false

theorem np_ok (b : β) : NP (.ok b) := rfl
theorem np_err (e : String) : NP (.err e : Outcome β) := rfl

theorem np_of_isOk {x : Outcome β} (h : ∃ b, x = .ok b) : NP x := by
  obtain ⟨b, rfl⟩ := h
  rfl

theorem np_map {x : Outcome β} (f : β → γ) (h : NP x) : NP (x.map f) :=
  (map_isPanic f x).trans h

theorem np_bind {x : Outcome β} {f : β → Outcome γ} (h : NP x) (hf : ∀ b, NP (f b)) :
    NP (x.bind f) := by
  cases x with
  | ok b => exact hf b
  | err e => rfl
  | panic s => exact h

theorem np_ite {c : Prop} [Decidable c] {x y : Outcome β} (hx : c → NP x) (hy : ¬c → NP y) :
    NP (if c then x else y) := by
  split
  · exact hx ‹c›
  · exact hy ‹¬c›

theorem not_ok_of_err {x : Outcome β} {e : String} (h : x = .err e) : x.isOk = false := by
  subst h; rfl

end Spdc.Outcome
