import Spdc.Real.CrystalCert
import Spdc.Real.CrystalCertData
/-!
# C01-T4: the optical class of each built-in crystal, one `IndexLt` per comparison

Ten crystals by chain certificates over the tables of `CrystalCertData.lean` (from the untrusted
`tools/c01_cert.py`; what is used of them is the kernel's evaluation over `ℚ` here), LiNb_MgO by a 2-D grid.
-/
namespace Spdc.Crystals
open Set

theorem bbo_z_lt_x : IndexLt .BBO_1 2 0 :=
  indexLt_of_cert (by decide) Cert.bboDelta (189/1000) Cert.bboPts (by decide +kernel)
    (by norm_num [lLo]) (by norm_num [lHi, Cert.bboPts])
    (by simp only [slope, dn, comp, Cert.bboDelta]; norm_num [abs_le])

theorem ktp_x_lt_z : IndexLt .KTP 0 2 :=
  indexLt_of_cert (by decide) Cert.ktpZXDelta (35/100) Cert.ktpZXPts (by decide +kernel)
    (by norm_num [lLo]) (by norm_num [lHi, Cert.ktpZXPts])
    (by simp only [slope, dn, comp, Cert.ktpZXDelta]; norm_num [abs_le])

theorem cast_ktpNzSq (q : ℚ) : ((ktpNzSq q : ℚ) : ℝ) = ktpNzSq (q : ℝ) := cast_nSq .KTP 2 q 0

/-- one certificate for each branch of `n_y²`, each over the whole window; `class_lt` is opened at the `Lo` table's
`δ` and the second branch answers with the `Hi` table's: the proof relies on the two being the same number
(27/50000), up to unfolding -/
theorem ktp_y_lt_z : IndexLt .KTP 1 2 := by
  refine class_lt (δ := ((Cert.ktpZYLoDelta : ℚ) : ℝ))
    (by simp only [slope, dn, comp, Cert.ktpZYLoDelta]; norm_num [abs_le]) fun _ _ l hl => ?_
  simp only [comp, nSq, lLo, lHi, ktpNySq] at hl ⊢
  split
  · exact gap_of_cert cast_ktpNzSq cast_ktpNySqLo Cert.ktpZYLoDelta (35/100) Cert.ktpZYLoPts
      (by decide +kernel) (by norm_num) (by norm_num [Cert.ktpZYLoPts])
      ktpNz_good.anti ktpNyLo_good.anti l hl
  · exact gap_of_cert cast_ktpNzSq cast_ktpNySqHi Cert.ktpZYHiDelta (35/100) Cert.ktpZYHiPts
      (by decide +kernel) (by norm_num) (by norm_num [Cert.ktpZYHiPts])
      ktpNz_good.anti ktpNyHi_good.anti l hl

theorem bibo_x_lt_z : IndexLt .BiBO_1 0 2 :=
  indexLt_of_cert (by decide) Cert.biboZXDelta (286/1000) Cert.biboZXPts (by decide +kernel)
    (by norm_num [lLo]) (by norm_num [lHi, Cert.biboZXPts])
    (by simp only [slope, dn, Cert.biboZXDelta]; norm_num [abs_le])

theorem bibo_y_lt_z : IndexLt .BiBO_1 1 2 :=
  indexLt_of_cert (by decide) Cert.biboZYDelta (286/1000) Cert.biboZYPts (by decide +kernel)
    (by norm_num [lLo]) (by norm_num [lHi, Cert.biboZYPts])
    (by simp only [slope, dn, Cert.biboZYDelta]; norm_num [abs_le])

theorem ln_z_lt_x : IndexLt .LiNbO3_1 2 0 :=
  indexLt_of_cert (by decide) Cert.lnDelta (4/10) Cert.lnPts (by decide +kernel)
    (by norm_num [lLo]) (by norm_num [lHi, Cert.lnPts])
    (by simp only [slope, dn, comp, Cert.lnDelta]; norm_num [abs_le])

theorem kdp_z_lt_x : IndexLt .KDP_1 2 0 :=
  indexLt_of_cert (by decide) Cert.kdpDelta (2/10) Cert.kdpPts (by decide +kernel)
    (by norm_num [lLo]) (by norm_num [lHi, Cert.kdpPts])
    (by simp only [slope, dn, Cert.kdpDelta]; norm_num [abs_le])

theorem ags1_z_lt_x : IndexLt .AgGaSe2_1 2 0 :=
  indexLt_of_cert (by decide) Cert.ags1Delta 1 Cert.ags1Pts (by decide +kernel)
    (by norm_num [lLo]) (by norm_num [lHi, Cert.ags1Pts])
    (by simp only [slope, dn, comp, Cert.ags1Delta]; norm_num [abs_le])

theorem ags2_z_lt_x : IndexLt .AgGaSe2_2 2 0 :=
  indexLt_of_cert (by decide) Cert.ags2Delta 1 Cert.ags2Pts (by decide +kernel)
    (by norm_num [lLo]) (by norm_num [lHi, Cert.ags2Pts])
    (by simp only [slope, dn, comp, Cert.ags2Delta]; norm_num [abs_le])

theorem lio2_z_lt_x : IndexLt .LiIO3_2 2 0 :=
  indexLt_of_cert (by decide) Cert.lio2Delta (3/10) Cert.lio2Pts (by decide +kernel)
    (by norm_num [lLo]) (by norm_num [lHi, Cert.lio2Pts])
    (by simp only [slope, dn, Cert.lio2Delta]; norm_num [abs_le])

theorem lio1_z_lt_x : IndexLt .LiIO3_1 2 0 :=
  indexLt_of_cert (by decide) Cert.lio1Delta (3/10) Cert.lio1Pts (by decide +kernel)
    (by norm_num [lLo]) (by norm_num [lHi, Cert.lio1Pts])
    (by simp only [slope, dn, Cert.lio1Delta]; norm_num [abs_le])

theorem ags_z_lt_x : IndexLt .AgGaS2_1 2 0 :=
  indexLt_of_cert (by decide) Cert.agsDelta (5/10) Cert.agsPts (by decide +kernel)
    (by norm_num [lLo]) (by norm_num [lHi, Cert.agsPts])
    (by simp only [slope, dn, comp, Cert.agsDelta]; norm_num [abs_le])

/-! LiNb_MgO, a grid certificate over wavelength × Gayer variable `F`: on the cell `[F0, F1] × [l0, l1]`
`mgoNeSq` is below `mgoNeSplit F1 F0 l0` and `mgoNoSq` above `mgoNoSplit F0 F1 l1` (every term at its
extremal corner); the kernel compares the two bounds. -/

theorem cast_mgoNoSplit (a b c : ℚ) : ((mgoNoSplit a b c : ℚ) : ℝ) = mgoNoSplit (a : ℝ) b c := by
  simp only [mgoNoSplit, pole2, sqr]; push_cast; rfl
theorem cast_mgoNeSplit (a b c : ℚ) : ((mgoNeSplit a b c : ℚ) : ℝ) = mgoNeSplit (a : ℝ) b c := by
  simp only [mgoNeSplit, pole2, sqr]; push_cast; rfl

/-- one cell of the LiNb_MgO grid: inside the box `[Flo, Fhi] × [0.44, 4]` (the literals are `Flo`,
`Fhi` over `ℚ`), upper bound of `n_e²` below lower bound of `n_o²` -/
def mgoCellOK (F0 F1 l0 l1 : ℚ) : Bool :=
  decide ((-38801.09 : ℚ) ≤ F0) && decide (F1 ≤ (135278.91 : ℚ)) && decide ((0.44 : ℚ) ≤ l0) &&
    decide (l1 ≤ (4 : ℚ)) && decide (mgoNeSplit F1 F0 l0 < mgoNoSplit F0 F1 l1)

theorem mgoCell_sound (F0 F1 l0 l1 : ℚ) (h : mgoCellOK F0 F1 l0 l1 = true) :
    ∀ F ∈ Icc (F0 : ℝ) F1, ∀ l ∈ Icc (l0 : ℝ) l1, mgoNeSq F l < mgoNoSq F l := by
  simp only [mgoCellOK, Bool.and_eq_true, decide_eq_true_eq] at h
  obtain ⟨⟨⟨⟨a1, a2⟩, a3⟩, a4⟩, a5⟩ := h
  have b1 : Flo ≤ (F0 : ℝ) := le_of_eq_of_le (by norm_num [Flo]) (Rat.cast_le.2 a1)
  have b2 : (F1 : ℝ) ≤ Fhi := le_of_le_of_eq (Rat.cast_le.2 a2) (by norm_num [Fhi])
  have b3 : (0.44 : ℝ) ≤ l0 := le_of_eq_of_le (by norm_num) (Rat.cast_le.2 a3)
  have b4 : (l1 : ℝ) ≤ 4 := by exact_mod_cast a4
  have b5 : mgoNeSplit (F1 : ℝ) F0 l0 < mgoNoSplit (F0 : ℝ) F1 l1 := by
    rw [← cast_mgoNeSplit, ← cast_mgoNoSplit]; exact Rat.cast_lt.2 a5
  intro F hF l hl
  rw [← mgoNeSplit_self, ← mgoNoSplit_self]
  exact (mgoNeSplit_mono (b1.trans hF.1) hF.2 b2 b1 hF.1 (hF.2.trans b2) b3 hl.1
    (hl.2.trans b4)).trans_lt (b5.trans_le (mgoNoSplit_mono b1 hF.1 (hF.2.trans b2) (b1.trans hF.1)
      hF.2 b2 (b3.trans hl.1) hl.2 b4))

/-- a chain of `F` cells, each a chain of wavelength cells -/
theorem mgo_gap : ∀ F ∈ Icc Flo Fhi, ∀ l ∈ Icc (0.44 : ℝ) 4, mgoNeSq F l < mgoNoSq F l :=
  cover_of_chain (ok := fun F0 F1 => chainCover (mgoCellOK F0 F1) (44/100) Cert.mgoLs)
    (fun F0 F1 h F hF => cover_of_chain (fun l0 l1 hl => mgoCell_sound F0 F1 l0 l1 hl F hF)
      Cert.mgoLs (44/100) h (by norm_num) (by norm_num [Cert.mgoLs]))
    Cert.mgoFs (-38801.09) (by decide +kernel) (by norm_num [Flo])
    (by norm_num [Fhi, Cert.mgoFs])

/-- LiNb_MgO has no linear thermo-optic term, hence `δ = 0` -/
theorem mgo_z_lt_x : IndexLt .LiNb_MgO 2 0 :=
  class_lt (δ := 0) (by simp [slope, dn]) fun hT1 hT2 l hl => by
    simpa [comp, nSq, margin] using
      mgo_gap _ (gayerF_mem hT1 hT2) l (by simpa only [lLo, lHi] using hl)

end Spdc.Crystals
