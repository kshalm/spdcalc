import Spdc.Model.GridProg
/-!
Closed forms of std's default `nth` / `nth_back` on the grid iterators.  For a state with `index ≤ index_back`
(the invariant of every reachable state) `nth k` is positional access to the point `index + k` if that point is
still owned, otherwise `None`; the cursor moves to `min (index + k + 1) index_back`.  `Iterator1D` and
`Iterator2D` are separate state machines of the same shape, so each statement appears once for either.
-/
namespace Spdc.Grid

section scalar
variable {α : Type} [Add α] [Sub α] [Mul α] [Div α] [NatCast α]

theorem Iter1.advance_spec (k : Nat) (it : Iter1 α) (h : it.index ≤ it.indexBack) :
    it.advance k = ({ it with index := min (it.index + k) it.indexBack },
                    decide (it.index + k ≤ it.indexBack)) := by
  induction k generalizing it with
  | zero => simp [Iter1.advance, Nat.min_eq_left h, h]
  | succ k ih =>
    obtain ⟨s, i, j⟩ := it
    by_cases hlt : i < j
    · simp [Iter1.advance, Iter1.next, Nat.not_le.mpr hlt, ih ⟨s, i + 1, j⟩ hlt, Nat.add_right_comm i 1 k,
        Nat.add_assoc]
    · have : i = j := Nat.le_antisymm h (Nat.not_lt.mp hlt)
      simp [Iter1.advance, Iter1.next, this]

theorem Iter1.advanceBack_spec (k : Nat) (it : Iter1 α) (h : it.index ≤ it.indexBack) :
    it.advanceBack k = ({ it with indexBack := max (it.indexBack - k) it.index },
                        decide (it.index + k ≤ it.indexBack)) := by
  induction k generalizing it with
  | zero => simp [Iter1.advanceBack, Nat.max_eq_left h, h]
  | succ k ih =>
    obtain ⟨s, i, j⟩ := it
    by_cases hlt : i < j
    · have e : (i + k ≤ j - 1) = (i + (k + 1) ≤ j) := by simp only [eq_iff_iff]; omega
      simp [Iter1.advanceBack, Iter1.nextBack, Nat.not_le.mpr hlt, ih ⟨s, i, j - 1⟩ (Nat.le_sub_one_of_lt hlt),
        Nat.sub_sub, Nat.add_comm 1 k, e]
    · have : i = j := Nat.le_antisymm h (Nat.not_lt.mp hlt)
      simp [Iter1.advanceBack, Iter1.nextBack, this]

theorem Iter1.nth_spec (it : Iter1 α) (h : it.index ≤ it.indexBack) (k : Nat) :
    it.nth k = (if it.index + k < it.indexBack then some (it.steps.value (it.index + k)) else none,
                { it with index := min (it.index + k + 1) it.indexBack }) := by
  obtain ⟨s, i, j⟩ := it
  rw [Iter1.nth, Iter1.advance_spec k _ h]
  -- the cursor is at `min (i + k) j`; left to check: `i + k < j` (`next` yields that point),
  -- `i + k = j` (`next` on the exhausted state), `i + k > j` (`advance` itself reported the end)
  grind [Iter1.next]

theorem Iter1.nthBack_spec (it : Iter1 α) (h : it.index ≤ it.indexBack) (k : Nat) :
    it.nthBack k = (if it.index + k < it.indexBack then some (it.steps.value (it.indexBack - 1 - k)) else none,
                    { it with indexBack := max (it.indexBack - (k + 1)) it.index }) := by
  obtain ⟨s, i, j⟩ := it
  rw [Iter1.nthBack, Iter1.advanceBack_spec k _ h]
  grind [Iter1.nextBack]

end scalar

section scalar2
variable {α : Type} [Add α] [Sub α] [Mul α] [Div α] [NatCast α] [OfScientific α]

theorem Iter2.advance_spec (k : Nat) (it : Iter2 α) (h : it.index ≤ it.indexBack) :
    it.advance k = ({ it with index := min (it.index + k) it.indexBack },
                    decide (it.index + k ≤ it.indexBack)) := by
  induction k generalizing it with
  | zero => simp [Iter2.advance, Nat.min_eq_left h, h]
  | succ k ih =>
    obtain ⟨s, lo, hi, i, j⟩ := it
    by_cases hlt : i < j
    · simp [Iter2.advance, Iter2.next, Nat.not_le.mpr hlt, ih ⟨s, lo, hi, i + 1, j⟩ hlt,
        Nat.add_right_comm i 1 k, Nat.add_assoc]
    · have : i = j := Nat.le_antisymm h (Nat.not_lt.mp hlt)
      simp [Iter2.advance, Iter2.next, this]

theorem Iter2.advanceBack_spec (k : Nat) (it : Iter2 α) (h : it.index ≤ it.indexBack) :
    it.advanceBack k = ({ it with indexBack := max (it.indexBack - k) it.index },
                        decide (it.index + k ≤ it.indexBack)) := by
  induction k generalizing it with
  | zero => simp [Iter2.advanceBack, Nat.max_eq_left h, h]
  | succ k ih =>
    obtain ⟨s, lo, hi, i, j⟩ := it
    by_cases hlt : i < j
    · have e : (i + k ≤ j - 1) = (i + (k + 1) ≤ j) := by simp only [eq_iff_iff]; omega
      simp [Iter2.advanceBack, Iter2.nextBack, Nat.not_le.mpr hlt,
        ih ⟨s, lo, hi, i, j - 1⟩ (Nat.le_sub_one_of_lt hlt), Nat.sub_sub, Nat.add_comm 1 k, e]
    · have : i = j := Nat.le_antisymm h (Nat.not_lt.mp hlt)
      simp [Iter2.advanceBack, Iter2.nextBack, this]

theorem Iter2.nth_spec (it : Iter2 α) (h : it.index ≤ it.indexBack) (k : Nat) :
    it.nth k = (if it.index + k < it.indexBack then some (it.steps.value (it.index + k)) else none,
                { it with index := min (it.index + k + 1) it.indexBack }) := by
  obtain ⟨s, lo, hi, i, j⟩ := it
  rw [Iter2.nth, Iter2.advance_spec k _ h]
  grind [Iter2.next]

theorem Iter2.nthBack_spec (it : Iter2 α) (h : it.index ≤ it.indexBack) (k : Nat) :
    it.nthBack k = (if it.index + k < it.indexBack then some (it.steps.value (it.indexBack - 1 - k)) else none,
                    { it with indexBack := max (it.indexBack - (k + 1)) it.index }) := by
  obtain ⟨s, lo, hi, i, j⟩ := it
  rw [Iter2.nthBack, Iter2.advanceBack_spec k _ h]
  grind [Iter2.nextBack]

end scalar2

end Spdc.Grid
