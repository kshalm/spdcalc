import Spdc.Model.Num
import Spdc.Model.Cx
import Mathlib.Analysis.SpecialFunctions.Trigonometric.Arctan
import Mathlib.Analysis.SpecialFunctions.Trigonometric.Inverse
import Mathlib.Analysis.SpecialFunctions.Log.Basic
import Mathlib.Analysis.SpecialFunctions.Complex.Arg
import Mathlib.Data.Complex.Basic
/-!
The ℝ instance of the model scalar, at which all property theorems are stated, and `Cx.toC : Cx ℝ → ℂ`.
Mathlib's totalisations (`Real.sqrt x = 0` for `x < 0`, `x / 0 = 0`, `Real.log` of non-positives) differ from
IEEE; theorems that depend on them carry explicit guards.  `Cx.toC` is injective and commutes with the
operations of `Cx`, so a goal about model complex numbers is moved to `ℂ` by `toC_injective` and `simp`.
-/
namespace Spdc

noncomputable instance : Transc ℝ where
  sqrt := Real.sqrt
  sin := Real.sin
  cos := Real.cos
  tan := Real.tan
  asin := Real.arcsin
  acos := Real.arccos
  atan := Real.arctan
  -- on the negative real axis `Complex.arg` is `π`; IEEE `atan2(-0.0, x)` with `x < 0` is `-π` (ℝ has no `-0`)
  atan2 y x := Complex.arg ⟨x, y⟩
  exp := Real.exp
  ln := Real.log
  floor x := (Int.floor x : ℝ)
  ceil x := (Int.ceil x : ℝ)
  -- Rust's `f64::round`, halves away from zero; Mathlib's `round` takes halves up, so the two differ
  -- at the negative half-integers (`Cfg.round_eq` in `Real/Config.lean`)
  round x := if 0 ≤ x then (Int.floor (x + 1 / 2) : ℝ) else (Int.ceil (x - 1 / 2) : ℝ)
  abs x := |x|
  pi := Real.pi

theorem lit_zero : (0.0 : ℝ) = 0 := by norm_num
theorem lit_one : (1.0 : ℝ) = 1 := by norm_num
theorem lit_two : (2.0 : ℝ) = 2 := by norm_num
theorem lit_three : (3.0 : ℝ) = 3 := by norm_num
theorem lit_four : (4.0 : ℝ) = 4 := by norm_num
theorem lit_half : (0.5 : ℝ) = 1 / 2 := by norm_num
theorem lit_quarter : (0.25 : ℝ) = 1 / 4 := by norm_num
theorem lit_075 : (0.75 : ℝ) = 3 / 4 := by norm_num
theorem lit_cLight : (299792458.0 : ℝ) = 299792458 := by norm_num

theorem ite_zero_guard {c : Prop} [Decidable c] {y : ℝ} (h : c → y = 0) :
    (if c then (0.0 : ℝ) else y) = y := by
  split
  · rename_i hc; rw [h hc, lit_zero]
  · rfl

/-- the vector at polar angles `(θ, φ)` is a unit vector (the model's `polarVector` and `dirFromPolar`) -/
theorem polar_normSq (θ φ : ℝ) :
    Real.sin θ * Real.cos φ * (Real.sin θ * Real.cos φ) +
      Real.sin θ * Real.sin φ * (Real.sin θ * Real.sin φ) + Real.cos θ * Real.cos θ = 1 := by
  linear_combination (Real.sin θ ^ 2) * Real.sin_sq_add_cos_sq φ + Real.sin_sq_add_cos_sq θ

namespace Cx

def toC (z : Cx ℝ) : ℂ := ⟨z.re, z.im⟩
def ofC (z : ℂ) : Cx ℝ := ⟨z.re, z.im⟩

@[simp] theorem toC_re (z : Cx ℝ) : z.toC.re = z.re := rfl
@[simp] theorem toC_im (z : Cx ℝ) : z.toC.im = z.im := rfl
@[simp] theorem toC_ofC (z : ℂ) : (ofC z).toC = z := rfl
@[simp] theorem ofC_toC (z : Cx ℝ) : ofC z.toC = z := rfl
theorem toC_injective : Function.Injective toC := Function.LeftInverse.injective ofC_toC

@[simp] theorem toC_add (z w : Cx ℝ) : (z + w).toC = z.toC + w.toC := by
  apply Complex.ext <;> rfl
-- a primed name states its fact with the operation spelt as the function (`Cx.add z w` for `z + w`)
@[simp] theorem toC_add' (z w : Cx ℝ) : (Cx.add z w).toC = z.toC + w.toC := toC_add z w
@[simp] theorem toC_sub (z w : Cx ℝ) : (z - w).toC = z.toC - w.toC := by
  apply Complex.ext <;> rfl
@[simp] theorem toC_sub' (z w : Cx ℝ) : (Cx.sub z w).toC = z.toC - w.toC := toC_sub z w
@[simp] theorem toC_neg (z : Cx ℝ) : (-z).toC = -z.toC := by
  apply Complex.ext <;> rfl
@[simp] theorem toC_neg' (z : Cx ℝ) : (Cx.neg z).toC = -z.toC := toC_neg z
@[simp] theorem toC_mul' (z w : Cx ℝ) : (Cx.mul z w).toC = z.toC * w.toC := by
  apply Complex.ext <;> simp [Cx.mul, toC]
@[simp] theorem toC_mul (z w : Cx ℝ) : (z * w).toC = z.toC * w.toC := toC_mul' z w
@[simp] theorem toC_smul (s : ℝ) (z : Cx ℝ) : (Cx.smul s z).toC = (s : ℂ) * z.toC := by
  apply Complex.ext <;> simp [Cx.smul, toC]
@[simp] theorem toC_muls (z : Cx ℝ) (s : ℝ) : (Cx.muls z s).toC = z.toC * (s : ℂ) := by
  apply Complex.ext <;> simp [Cx.muls, toC]
@[simp] theorem toC_divs (z : Cx ℝ) (s : ℝ) : (Cx.divs z s).toC = z.toC / (s : ℂ) := by
  apply Complex.ext
  · simp [Cx.divs, toC, Complex.div_ofReal_re]
  · simp [Cx.divs, toC, Complex.div_ofReal_im]
@[simp] theorem toC_conj (z : Cx ℝ) : z.conj.toC = (starRingEnd ℂ) z.toC := by
  apply Complex.ext <;> simp [Cx.conj, toC]
@[simp] theorem normSq_eq (z : Cx ℝ) : z.normSq = Complex.normSq z.toC := by
  simp [Cx.normSq, Complex.normSq_apply]
@[simp] theorem toC_zero : (Cx.zero : Cx ℝ).toC = 0 := by
  apply Complex.ext <;> simp [Cx.zero, toC, lit_zero]
@[simp] theorem toC_mk_zero : (⟨0, 0⟩ : Cx ℝ).toC = 0 := by
  apply Complex.ext <;> simp [Cx.toC]
@[simp] theorem toC_one : (Cx.one : Cx ℝ).toC = 1 := by
  apply Complex.ext <;> simp [Cx.one, toC, lit_zero, lit_one]
@[simp] theorem toC_ofReal (x : ℝ) : (Cx.ofReal x).toC = (x : ℂ) := by
  apply Complex.ext <;> simp [Cx.ofReal, toC, lit_zero]
@[simp] theorem toC_ofImag (x : ℝ) : (Cx.ofImag x).toC = (x : ℂ) * Complex.I := by
  apply Complex.ext <;> simp [Cx.ofImag, toC, lit_zero]
@[simp] theorem toC_inv (z : Cx ℝ) : z.inv.toC = z.toC⁻¹ := by
  apply Complex.ext <;> simp [Cx.inv, toC, Complex.inv_re, Complex.inv_im, Cx.normSq, Complex.normSq_apply]
@[simp] theorem toC_div' (z w : Cx ℝ) : (Cx.div z w).toC = z.toC / w.toC := by
  apply Complex.ext <;>
    simp [Cx.div, toC, Complex.div_re, Complex.div_im, Cx.normSq, Complex.normSq_apply] <;>
    ring
@[simp] theorem toC_div (z w : Cx ℝ) : (z / w).toC = z.toC / w.toC := toC_div' z w
@[simp] theorem toC_cis (θ : ℝ) : (Cx.cis θ).toC = Complex.exp (θ * Complex.I) := by
  apply Complex.ext <;> simp [Cx.cis, toC, Transc.cos, Transc.sin, Complex.exp_ofReal_mul_I_re, Complex.exp_ofReal_mul_I_im]
@[simp] theorem toC_fromPolar (r θ : ℝ) :
    (Cx.fromPolar r θ).toC = (r : ℂ) * Complex.exp ((θ : ℂ) * Complex.I) := by
  rw [show Cx.fromPolar r θ = Cx.smul r (Cx.cis θ) from rfl, toC_smul, toC_cis]
@[simp] theorem toC_exp (z : Cx ℝ) : z.exp.toC = Complex.exp z.toC := by
  apply Complex.ext <;>
    simp [Cx.exp, Cx.fromPolar, toC, Transc.exp, Transc.cos, Transc.sin, Complex.exp_re, Complex.exp_im]
theorem add_mk (a b c d : ℝ) : (⟨a, b⟩ + ⟨c, d⟩ : Cx ℝ) = ⟨a + c, b + d⟩ := rfl

-- these two are primed for another reason: Mathlib has `smul_smul`, `smul_zero` for `•`
theorem smul_smul' (x y : ℝ) (r : Cx ℝ) : Cx.smul (x * y) r = Cx.smul x (Cx.smul y r) := by
  apply toC_injective; simp; ring

theorem smul_zero' (x : ℝ) : Cx.smul x (Cx.zero : Cx ℝ) = Cx.zero := by
  apply toC_injective; simp

theorem sqrt_of_toC_real (z : Cx ℝ) (p : ℝ) (hp : 0 ≤ p) (h : z.toC = (p : ℂ)) :
    z.sqrt.toC = (Real.sqrt p : ℂ) := by
  obtain ⟨x, y⟩ := z
  obtain ⟨rfl, rfl⟩ : x = p ∧ y = 0 := by simpa [Cx.toC, Complex.ext_iff] using h
  simp only [Cx.sqrt, lit_zero, lt_irrefl, not_false_eq_true, and_self, if_true, not_lt.mpr hp,
    Transc.sqrt]
  rfl

theorem abs_eq (z : Cx ℝ) : z.abs = ‖z.toC‖ := by
  simp [Cx.abs, Transc.sqrt, Complex.norm_def]

theorem abs_neg' (z : Cx ℝ) : Cx.abs (Cx.neg z) = Cx.abs z := by
  rw [abs_eq, abs_eq, toC_neg', norm_neg]

theorem abs_mul' (c z : Cx ℝ) : Cx.abs (Cx.mul c z) = Cx.abs c * Cx.abs z := by
  rw [abs_eq, abs_eq, abs_eq, toC_mul', norm_mul]

theorem sqrt_mul_abs_mul_self {n : ℝ} (hn : 0 ≤ n) (r : Cx ℝ) :
    Real.sqrt n * r.abs * (Real.sqrt n * r.abs) = n * r.normSq := by
  rw [mul_mul_mul_comm, Real.mul_self_sqrt hn, abs_eq, normSq_eq, Complex.normSq_eq_norm_sq, pow_two]

@[simp] theorem toC_sum (l : List (Cx ℝ)) : (Cx.sum l).toC = (l.map toC).sum := by
  rw [List.sum_eq_foldl, List.foldl_map, Cx.sum, ← toC_zero]
  exact (List.foldl_hom toC fun x y => (toC_add' x y).symm).symm

end Cx

theorem sumList_eq (l : List ℝ) : sumList l = l.sum := by
  rw [List.sum_eq_foldl, sumList, lit_zero]

theorem list_range_map_sum {M : Type*} [AddCommMonoid M] (g : ℕ → M) (n : ℕ) :
    ((List.range n).map g).sum = ∑ i ∈ Finset.range n, g i := rfl

theorem sumList_range (t : ℕ → ℝ) (n : ℕ) :
    sumList ((List.range n).map t) = ∑ k ∈ Finset.range n, t k :=
  sumList_eq _

end Spdc
