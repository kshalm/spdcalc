import Spdc.Model.ComposeAuto
import Spdc.Real.ComposeLemmas
import Spdc.Real.ConfigFlow
import Spdc.Real.NM1D
import Spdc.Real.Auto
/-!
Part 2 of the composed model (`Model/ComposeAuto.lean`) over ℝ.  The composed numeric sub-routines never
panic: every cost closure is NaN-free inside the optimiser's bounds, so `NM1D.run_spec` applies — also to the
simplex nested inside the cost of `optimum_theta`.  `asOptimum` does not read what it overwrites.
-/
namespace Spdc.Compose
open Spdc.Outcome

theorem costOf_ok (v : ℝ) : costOf (.ok v) = NM1D.Cost.fin v := Beam.toCost_eq_fin v

theorem np_optimumIdlerB (S : Setup ℝ) (s p : Beam.Beam ℝ) (pp : DeltaK.Poling ℝ) :
    NP (optimumIdlerB S s p pp) := np_map _ (DeltaK.np_optimumIdler _)

theorem optimumIdlerB_isOk (S : Setup ℝ) (s p : Beam.Beam ℝ) (pp : DeltaK.Poling ℝ)
    (h : Beam.vacuumWavelength p < Beam.vacuumWavelength s) : ∃ i, optimumIdlerB S s p pp = .ok i :=
  ⟨_, by rw [optimumIdlerB, DeltaK.optimumIdler_of_lt (i := idlerInB S s p pp) h, map_ok]⟩

theorem deltaKB_isOk (S : Setup ℝ) (s i p : Beam.Beam ℝ) (ωs ωi : ℝ) (pp : DeltaK.Poling ℝ) {ke : ℝ}
    (hk : DeltaK.kEff pp = .ok ke) : ∃ v, deltaKB S s i p ωs ωi pp = .ok v :=
  ⟨_, DeltaK.deltaK_eq_sub hk⟩

theorem dkzOptimum_isOk (S : Setup ℝ) (s p : Beam.Beam ℝ) (pp : DeltaK.Poling ℝ) {ke : ℝ}
    (hk : DeltaK.kEff pp = .ok ke) (h : Beam.vacuumWavelength p < Beam.vacuumWavelength s) :
    ∃ z, dkzOptimum S s p pp = .ok z := by
  obtain ⟨i, hi⟩ := optimumIdlerB_isOk S s p pp h
  obtain ⟨v, hv⟩ := deltaKB_isOk S s i p s.frequency i.frequency pp hk
  exact ⟨v.z, by rw [dkzOptimum, hi, bind_ok, hv, map_ok]⟩

theorem snellInternalB_isOk (S : Setup ℝ) (b : Beam.Beam ℝ) (e : ℝ) : ∃ t, snellInternalB S b e = .ok t := by
  unfold snellInternalB Beam.snellInternal
  obtain ⟨x, hx, -⟩ := NM1D.run_spec
    (fun t => Beam.toCost (Beam.snellCost (principal S (Beam.vacuumWavelength b)) S.cTheta S.cPhi b.phi
      b.polarization e t)) e (e + (1.0 : ℝ)) 100 (0.0 : ℝ) Units.halfPi (1e-12 : ℝ)
    (fun _ _ _ => by rw [Beam.toCost_eq_fin]; exact nofun)
  exact ⟨Beam.signum e * x, by simp only [hx, map_ok]⟩

theorem setThetaExternalB_isOk (S : Setup ℝ) (b : Beam.Beam ℝ) (e : ℝ) :
    ∃ t, setThetaExternalB S b e = .ok (Beam.setAngles b b.phi t) := by
  obtain ⟨t, ht⟩ := snellInternalB_isOk S b (Transc.abs e)
  exact ⟨t, by rw [setThetaExternalB, ht, map_ok]⟩

theorem setAngles_frequency (b : Beam.Beam ℝ) (φ θ : ℝ) : (Beam.setAngles b φ θ).frequency = b.frequency := rfl

theorem thetaCost_fin (S : Setup ℝ) (s p : Beam.Beam ℝ) (θe θ : ℝ)
    (h : Beam.vacuumWavelength p < Beam.vacuumWavelength s) : ∃ v, thetaCost S s p θe θ = NM1D.Cost.fin v := by
  unfold thetaCost
  obtain ⟨t, ht⟩ := setThetaExternalB_isOk { S with cTheta := θ } s θe
  have h' : Beam.vacuumWavelength p < Beam.vacuumWavelength (Beam.setAngles s s.phi t) := h
  obtain ⟨z, hz⟩ := dkzOptimum_isOk { S with cTheta := θ } (Beam.setAngles s s.phi t) p .off DeltaK.kEff_off h'
  exact ⟨Transc.abs z, by simp only [ht, bind_ok, hz, map_ok, costOf_ok]⟩

theorem thetaCost_ne_nan (S : Setup ℝ) (s p : Beam.Beam ℝ) (θe θ : ℝ)
    (h : Beam.vacuumWavelength p < Beam.vacuumWavelength s) : thetaCost S s p θe θ ≠ NM1D.Cost.nan := by
  obtain ⟨v, hv⟩ := thetaCost_fin S s p θe θ h
  rw [hv]; exact nofun

theorem optimumThetaB_isOk (S : Setup ℝ) (s p : Beam.Beam ℝ)
    (h : Beam.vacuumWavelength p < Beam.vacuumWavelength s) : ∃ θ, optimumThetaB S s p = .ok θ := by
  unfold optimumThetaB Auto.optimumTheta
  obtain ⟨x, hx, -⟩ := NM1D.run_spec (thetaCost S s p (thetaExternal S s)) (Transc.pi / (6.0 : ℝ))
    (Transc.pi / (6.0 : ℝ) + (1.0 : ℝ)) 1000 (0.0 : ℝ) (Transc.pi / (2.0 : ℝ)) (1e-6 : ℝ)
    (fun θ _ _ => thetaCost_ne_nan S s p _ θ h)
  exact ⟨x, hx⟩

/-- inside `[MIN_POSITIVE, L]` the trial period is positive, so `k_eff` is a value and the cost a real number -/
theorem np_optimumPolingPeriodB (S : Setup ℝ) (s p : Beam.Beam ℝ)
    (h : Beam.vacuumWavelength p < Beam.vacuumWavelength s) : NP (optimumPolingPeriodB S s p) := by
  obtain ⟨z, hz⟩ := dkzOptimum_isOk S s p .off DeltaK.kEff_off h
  rw [optimumPolingPeriodB, hz, bind_ok]
  apply np_map
  unfold Auto.optimumPolingPeriod
  split
  · rfl
  · obtain ⟨x, hx, -⟩ := NM1D.run_spec
      (fun per => costOf ((dkzOptimum S s p (.on per (Auto.computeSign z))).map Transc.abs))
      (Transc.abs (DeltaK.twoPi / z)) (Transc.abs (DeltaK.twoPi / z) + (1e-6 : ℝ)) 1000 Auto.minPositive S.L
      (1e-12 : ℝ)
      (fun per hlo _ => by
        obtain ⟨zz, hzz⟩ := dkzOptimum_isOk S s p (.on per (Auto.computeSign z))
          (DeltaK.kEff_on _ (Auto.minPositive_pos.trans_le hlo)) h
        rw [hzz, map_ok, costOf_ok]
        exact nofun)
    simp only [hx]
    split <;> rfl

theorem vacuumWavelength_beamOfCfg (b : Cfg.Beam ℝ) :
    Beam.vacuumWavelength (beamOfCfg b) = b.wavelength := by
  rw [Beam.vacuumWavelength, Units.frequencyToVacuumWavelength_eq, Cfg.Beam.wavelength, Cfg.freqToWl_eq,
    Cfg.twoPiC_eq]
  rfl

theorem lt_of_not_lsLeLp {s p : Cfg.Beam ℝ} (h : ¬ Cfg.lsLeLp s p = true) :
    Beam.vacuumWavelength (beamOfCfg p) < Beam.vacuumWavelength (beamOfCfg s) := by
  rw [vacuumWavelength_beamOfCfg, vacuumWavelength_beamOfCfg]
  simpa [Cfg.lsLeLp] using h

theorem extNoPanic_composed : Cfg.ExtNoPanic (composedExt : Cfg.Ext ℝ) where
  snell := fun b a c => np_of_isOk (snellInternalB_isOk (carrier c) (beamOfCfg b) a)
  signNeg := fun _ _ _ => np_ite (fun _ => np_err _) fun hl =>
    np_map _ (np_of_isOk (dkzOptimum_isOk _ _ _ .off DeltaK.kEff_off (lt_of_not_lsLeLp hl)))
  period := fun _ _ _ =>
    np_ite (fun _ => np_err _) fun hl => np_optimumPolingPeriodB _ _ _ (lt_of_not_lsLeLp hl)
  theta := fun c s p => np_ite (fun _ => np_err _) fun hl =>
    np_of_isOk (optimumThetaB_isOk (carrier c) (beamOfCfg s) (beamOfCfg p) (lt_of_not_lsLeLp hl))
  idler := fun _ _ _ _ => np_map _ (np_optimumIdlerB _ _ _ _)
  waistPos := fun _ _ _ => rfl

theorem optimumPolingPeriodB_ok {S : Setup ℝ} {s p : Beam.Beam ℝ} {v : ℝ}
    (h : optimumPolingPeriodB S s p = .ok v) :
    ∃ z r, dkzOptimum S s p .off = .ok z ∧
      Auto.optimumPolingPeriod z
        (fun neg per => costOf ((dkzOptimum S s p (.on per neg)).map Transc.abs)) S.L = .ok r ∧
      v = periodValue r := by
  simp only [optimumPolingPeriodB, bind_eq_ok, map_eq_ok] at h
  obtain ⟨z, hz, r, hr, rfl⟩ := h
  exact ⟨z, r, hz, hr, rfl⟩

/-- the fields the beam-level routines read, except the crystal angle `cTheta`, which `thetaCost` replaces by
the trial angle -/
structure SameCore (T U : Setup ℝ) : Prop where
  hcrystal : T.crystal = U.crystal
  hcPhi : T.cPhi = U.cPhi
  hL : T.L = U.L
  hT : T.T = U.T
  hcp : T.counterProp = U.counterProp
  hpm : T.pm = U.pm

theorem thetaCost_congr {T U : Setup ℝ} (h : SameCore T U) (s p : Beam.Beam ℝ) (θe θ : ℝ) :
    thetaCost T s p θe θ = thetaCost U s p θe θ := by
  obtain ⟨h1, h2, h3, h4, h5, h6⟩ := h
  cases T; cases U
  simp only at h1 h2 h3 h4 h5 h6
  subst h1 h2 h3 h4 h5 h6
  rfl

theorem thetaExternal_collinear (S : Setup ℝ) (b : Beam.Beam ℝ) (h : b.theta = 0) : thetaExternal S b = 0 := by
  simp [thetaExternal, Beam.thetaExternal, Beam.snellExternal, h, Transc.sin, Transc.asin]

theorem optimumThetaB_collinear {T U : Setup ℝ} (h : SameCore T U) (s p : Beam.Beam ℝ) (hs : s.theta = 0) :
    optimumThetaB T s p = optimumThetaB U s p := by
  unfold optimumThetaB
  rw [thetaExternal_collinear T s hs, thetaExternal_collinear U s hs]
  exact congrArg Auto.optimumTheta (funext fun θ => thetaCost_congr h s p 0 θ)

theorem optimumPolingPeriodB_congr {T U : Setup ℝ} (h : SameCore T U) (hθ : T.cTheta = U.cTheta)
    (s p : Beam.Beam ℝ) : optimumPolingPeriodB T s p = optimumPolingPeriodB U s p := by
  obtain ⟨h1, h2, h3, h4, h5, h6⟩ := h
  cases T; cases U
  simp only at h1 h2 h3 h4 h5 h6 hθ
  subst h1 h2 h3 h4 h5 h6 hθ
  rfl

theorem resetSignalSpec_fw (T : Setup ℝ) (h : T.counterProp = false) :
    resetSignalSpec T = { T.sig with phi := (0.0 : ℝ) * Cfg.deg, theta := (0.0 : ℝ) * Cfg.deg } := by
  simp [resetSignalSpec, h]

theorem signalBeam_optReset_theta (S : Setup ℝ) (hfw : S.counterProp = false) :
    (signalBeam (optReset S)).theta = 0 := by
  simp only [optReset, signalBeam, resetSignalSpec_fw S hfw, Beam.new, lit_zero, zero_mul,
    Units.normalizeAngleSigned_zero]

theorem spec_eta (b : BeamSpec ℝ) {x y : ℝ} (h1 : b.phi = x) (h2 : b.theta = y) :
    ({ b with phi := x, theta := y } : BeamSpec ℝ) = b := by
  cases b; simp only at h1 h2; subst h1 h2; rfl

theorem optReset_fix (T : Setup ℝ) (hcp : T.counterProp = false)
    (h1 : T.sig.phi = (0.0 : ℝ) * Cfg.deg) (h2 : T.sig.theta = (0.0 : ℝ) * Cfg.deg) : optReset T = T := by
  unfold optReset
  rw [resetSignalSpec_fw T hcp, spec_eta _ h1 h2]

theorem optDecide_off (T : Setup ℝ) (hp : T.poling = .off) :
    optDecide T =
      if Beam.vacuumWavelength (signalBeam T) ≤ Beam.vacuumWavelength (pumpBeam T) then
        .panic "optimum_theta:unwrap"
      else (optimumThetaB T (signalBeam T) (pumpBeam T)).map fun θ => { T with cTheta := θ } := by
  unfold optDecide; simp only [hp]

theorem optDecide_on (T : Setup ℝ) {q : ℝ} {apod : Poling.Apod ℝ} (hp : T.poling = .on q apod) :
    optDecide T =
      if Beam.vacuumWavelength (signalBeam T) ≤ Beam.vacuumWavelength (pumpBeam T) then
        .panic "optimum_poling_period:unwrap"
      else (optimumPolingPeriodB T (signalBeam T) (pumpBeam T)).map fun per =>
        { T with poling := .on per apod } := by
  unfold optDecide; simp only [hp]

/-- `h0`: unpoled, the second pass sees another crystal angle than the first, which `optimum_theta` does not
read for a collinear signal -/
theorem optDecide_ok {T T2 : Setup ℝ} (h : optDecide T = .ok T2) (h0 : (signalBeam T).theta = 0) :
    ∃ θ pol, T2 = { T with cTheta := θ, poling := pol } ∧
      ∀ U : Setup ℝ, signalBeam U = signalBeam T → pumpBeam U = pumpBeam T → SameCore U T →
        U.cTheta = θ → U.poling = pol → optDecide U = .ok U := by
  cases hT : T.poling with
  | off =>
    rw [optDecide_off _ hT] at h
    split at h
    · cases h
    · rename_i hg
      obtain ⟨θ, hθT, rfl⟩ := map_eq_ok.mp h
      refine ⟨θ, T.poling, rfl, fun U hs hp hc hθ hpol => ?_⟩
      subst hθ
      rw [optDecide_off U (hpol.trans hT), hs, hp, if_neg hg,
        (optimumThetaB_collinear hc _ _ h0).trans hθT, map_ok]
  | on q apod =>
    rw [optDecide_on _ hT] at h
    split at h
    · cases h
    · rename_i hg
      obtain ⟨per, hper, rfl⟩ := map_eq_ok.mp h
      refine ⟨T.cTheta, .on per apod, rfl, fun U hs hp hc hθ hpol => ?_⟩
      rw [optDecide_on U hpol, hs, hp, if_neg hg,
        (optimumPolingPeriodB_congr hc hθ _ _).trans hper, map_ok, ← hpol]

theorem optFinish_eq (S2 : Setup ℝ) :
    optFinish S2 = (autoIdler S2).map fun i =>
      { S2 with
        idlerAuto := true
        sig := { S2.sig with z0 := optimalWaistPosition S2 (signalBeam S2) }
        idl := { S2.idl with z0 := optimalWaistPosition S2 i } } := rfl

theorem optFinish_idem (S2 o : Setup ℝ) (h : optFinish S2 = .ok o) : optFinish o = .ok o := by
  obtain ⟨i, hi, rfl⟩ := map_eq_ok.mp h
  -- neither `autoIdler` nor `optimalWaistPosition` reads the waist positions or `idlerAuto`: on `o` they unfold
  -- to the same terms as on `S2`, so `hi` and the closing `rfl` serve as they stand
  exact map_eq_ok.mpr ⟨i, hi, rfl⟩

theorem asOptimum_fix (O : Setup ℝ) (hR : optReset O = O) (hD : optDecide O = .ok O)
    (hF : optFinish O = .ok O) : asOptimum O = .ok O := by
  unfold asOptimum; rw [hR, hD]; exact hF

/-- `try_as_optimum` is idempotent (forward propagation): each of its three steps recomputes what the first
pass left -/
theorem asOptimum_idem (S o : Setup ℝ) (h : asOptimum S = .ok o) (hfw : S.counterProp = false) :
    asOptimum o = .ok o := by
  obtain ⟨S2, h2, h3⟩ := bind_eq_ok.mp h
  have hfin := optFinish_idem S2 o h3
  obtain ⟨i, -, rfl⟩ := map_eq_ok.mp ((optFinish_eq S2).symm.trans h3)
  obtain ⟨θ, pol, rfl, hD⟩ := optDecide_ok h2 (signalBeam_optReset_theta S hfw)
  -- `o` is now `optReset S` with other `cTheta`, `poling`, `idlerAuto` and waist positions
  exact asOptimum_fix _ (optReset_fix _ hfw rfl (congrArg BeamSpec.theta (resetSignalSpec_fw S hfw)))
    (hD _ rfl rfl ⟨rfl, rfl, rfl, rfl, rfl, rfl⟩ rfl rfl) hfin

end Spdc.Compose
