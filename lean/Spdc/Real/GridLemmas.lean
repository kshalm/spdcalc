import Spdc.Model.Grid
import Mathlib.Algebra.Field.Basic
import Mathlib.Algebra.CharZero.Defs
import Mathlib.Algebra.BigOperators.Group.List.Lemmas
import Mathlib.Algebra.BigOperators.Fin
import Mathlib.Tactic.FieldSimp
import Mathlib.Tactic.Ring
import Mathlib.Tactic.NormNum
/-!
Grids, index maps, producers (C14 / C15; the flat-index lemmas also serve C09 / C10).  First what holds for
any scalar type, hence bit for bit at `Float`: the iterator state machines, the 2-D producer (its halves keep
the global index), the flat-array index maps (the model stores an `n × n` grid flat with index `row * n + col`;
`sum_range_sq` converts to the sums over `Fin n × Fin n` of the C09 / C10 theorems).  Then what needs a field
of characteristic 0: a step range is affine in the index, which is what makes the re-derived endpoints of a
1-D split land on the same points.
-/
namespace Spdc.Grid

section scalar
variable {α : Type} [Add α] [Sub α] [Mul α] [Div α] [NatCast α]

theorem Steps.value_of_gt (s : Steps α) (h : 1 < s.n) (i : Nat) :
    s.value i = (s.a * (((s.n - 1 : Nat) : α) - (i : α)) + s.b * (i : α)) / ((s.n - 1 : Nat) : α) :=
  if_pos h

theorem Steps.value_of_le (s : Steps α) (h : s.n ≤ 1) (i : Nat) : s.value i = s.a :=
  if_neg (Nat.not_lt.mpr h)

theorem Steps.collect_length (s : Steps α) : s.collect.length = s.n := by
  simp [Steps.collect]

theorem Steps.collect_getElem (s : Steps α) (i : Nat) (h : i < s.collect.length) :
    s.collect[i] = s.value i := by
  simp [Steps.collect]

theorem Steps.collect_zero (s : Steps α) (h : s.n = 0) : s.collect = [] := by
  simp [Steps.collect, h]

theorem split1_eq_ok (p : Steps α) (k : Nat) (hk : k ≤ p.n) :
    split1 p k = .ok (⟨p.a, if k = 0 then p.a else p.value (k - 1), k⟩, ⟨p.value k, p.b, p.n - k⟩) :=
  if_neg (Nat.not_lt.mpr hk)

/-- items of the drained output pulled from one side (`false` = front, `true` = back), in pull order -/
def pulls {β : Type} (sc : List Bool) (out : List (Option β)) (side : Bool) : List β :=
  ((sc.zip out).filter (fun p => p.1 == side)).filterMap (fun p => p.2)

theorem pulls_cons_same {β : Type} (c : Bool) (sc : List Bool) (v : Option β) (out : List (Option β)) :
    pulls (c :: sc) (v :: out) c = v.toList ++ pulls sc out c := by
  cases v <;> simp [pulls]

theorem pulls_cons_other {β : Type} (c d : Bool) (hcd : c ≠ d) (sc : List Bool) (v : Option β)
    (out : List (Option β)) : pulls (c :: sc) (v :: out) d = pulls sc out d := by
  simp [pulls, beq_false_of_ne hcd]

theorem pulls_none {β : Type} (sc : List Bool) (side : Bool) :
    pulls sc (sc.map fun _ => (none : Option β)) side = [] := by
  induction sc with
  | nil => rfl
  | cons c r ih =>
    rw [List.map_cons]
    by_cases h : c = side
    · subst h; rw [pulls_cons_same, ih]; rfl
    · rw [pulls_cons_other c side h, ih]

theorem Iter1.drain_front (s : Steps α) {i j : Nat} (h : i < j) (r : List Bool) :
    (⟨s, i, j⟩ : Iter1 α).drain (false :: r) = some (s.value i) :: (⟨s, i + 1, j⟩ : Iter1 α).drain r := by
  simp [Iter1.drain, Iter1.next, Nat.not_le.mpr h]

theorem Iter1.drain_back (s : Steps α) {i j : Nat} (h : i < j) (r : List Bool) :
    (⟨s, i, j⟩ : Iter1 α).drain (true :: r)
      = some (s.value (j - 1)) :: (⟨s, i, j - 1⟩ : Iter1 α).drain r := by
  simp [Iter1.drain, Iter1.nextBack, Nat.not_le.mpr h]

theorem Iter1.drain_exhausted (s : Steps α) (i j : Nat) (h : j ≤ i) (sc : List Bool) :
    (⟨s, i, j⟩ : Iter1 α).drain sc = sc.map fun _ => none := by
  induction sc with
  | nil => rfl
  | cons c r ih => cases c <;> simp [Iter1.drain, Iter1.next, Iter1.nextBack, h, ih]

theorem Iter1.drain_length (it : Iter1 α) (sc : List Bool) : (it.drain sc).length = sc.length := by
  induction sc generalizing it with
  | nil => rfl
  | cons c r ih => cases c <;> simp [Iter1.drain, ih]

/-- state-machine invariant of `Iterator1D`: every index at most once, none skipped -/
theorem Iter1.drain_spec (s : Steps α) (sc : List Bool) (i j : Nat) (hij : i ≤ j) :
    ∃ f b, f + b = min sc.length (j - i) ∧
      pulls sc ((⟨s, i, j⟩ : Iter1 α).drain sc) false = (List.range' i f).map s.value ∧
      pulls sc ((⟨s, i, j⟩ : Iter1 α).drain sc) true = ((List.range' (j - b) b).map s.value).reverse := by
  induction sc generalizing i j with
  | nil => exact ⟨0, 0, by simp, rfl, rfl⟩
  | cons c r ih =>
    rcases Nat.eq_or_lt_of_le hij with rfl | hlt
    · rw [Iter1.drain_exhausted s i i hij]
      exact ⟨0, 0, by simp, pulls_none _ _, pulls_none _ _⟩
    cases c with
    | false =>
      obtain ⟨f, b, hfb, hf, hb⟩ := ih (i + 1) j hlt
      rw [Iter1.drain_front s hlt]
      refine ⟨f + 1, b, by simp only [List.length_cons]; omega, ?_, ?_⟩
      · rw [pulls_cons_same, hf, List.range'_succ]; rfl
      · rw [pulls_cons_other false true (by decide), hb]
    | true =>
      obtain ⟨f, b, hfb, hf, hb⟩ := ih i (j - 1) (by omega)
      rw [Iter1.drain_back s hlt]
      refine ⟨f, b + 1, by simp only [List.length_cons]; omega, ?_, ?_⟩
      · rw [pulls_cons_other true false (by decide), hf]
      · rw [pulls_cons_same, hb, show j - (b + 1) = j - 1 - b by omega, List.range'_1_concat,
          show j - 1 - b + b = j - 1 by omega]
        simp

theorem Iter1.drain_all_back (s : Steps α) (j : Nat) :
    (⟨s, 0, j⟩ : Iter1 α).drain (List.replicate j true) = (((List.range j).map s.value).reverse).map some := by
  induction j with
  | zero => rfl
  | succ j ih =>
    rw [List.replicate_succ, Iter1.drain_back s (by omega : 0 < j + 1), Nat.add_sub_cancel, ih, List.range_succ]
    simp

theorem Iter1.drain_all_front (s : Steps α) (j m i : Nat) (h : i + m ≤ j) :
    (⟨s, i, j⟩ : Iter1 α).drain (List.replicate m false) = ((List.range' i m).map s.value).map some := by
  induction m generalizing i with
  | zero => rfl
  | succ m ih =>
    rw [List.replicate_succ, Iter1.drain_front s (by omega), ih (i + 1) (by omega), List.range'_succ]
    rfl

variable [OfScientific α]

theorem Steps2D.collect_length (s : Steps2D α) : s.collect.length = s.x.n * s.y.n := by
  simp [Steps2D.collect, Steps2D.len]

theorem Steps2D.collect_getElem (s : Steps2D α) (k : Nat) (h : k < s.collect.length) :
    s.collect[k] = s.value k := by
  simp [Steps2D.collect]

theorem Steps2D.producer_collect (s : Steps2D α) : s.producer.collect = s.collect := by
  simp [Steps2D.producer, Prod2.collect, Steps2D.collect]

theorem Prod2.collect_length (p : Prod2 α) : p.collect.length = p.len := by
  simp [Prod2.collect, Prod2.len]

-- its own `α`: `split_at` touches no scalar, so none of the section's instances belongs in the signature
theorem split2_eq_ok {α : Type} (p : Prod2 α) (k : Nat) (hk : p.lo + k ≤ p.hi) :
    split2 p k = .ok (⟨p.steps, p.lo, p.lo + k⟩, ⟨p.steps, p.lo + k, p.hi⟩) :=
  if_neg (Nat.not_lt.mpr hk)

theorem split2_collect (p : Prod2 α) (k : Nat) (hk : p.lo + k ≤ p.hi) :
    (⟨p.steps, p.lo, p.lo + k⟩ : Prod2 α).collect ++ (⟨p.steps, p.lo + k, p.hi⟩ : Prod2 α).collect
      = p.collect := by
  have hn : p.hi - p.lo = k + (p.hi - (p.lo + k)) := by omega
  simp only [Prod2.collect]
  rw [hn, List.range_add, List.map_append, List.map_map]
  congr 1
  · congr 2; omega
  · apply List.map_congr_left
    intro j _
    simp only [Function.comp]
    congr 1; omega

/-! The 2-D tree lemmas are stated for a producer `[lo, hi)` with `lo + n = hi`, so that the length
handed to a subtree is the `k` / `n − k` of `ValidC` as it stands. -/

theorem leaves2_eq_collect (t : SplitTree) (p : Prod2 α) (n : Nat) (hn : p.lo + n = p.hi)
    (h : t.ValidC n) : leaves2 p t = some p.collect := by
  induction t generalizing p n with
  | leaf => rfl
  | node k l r ihl ihr =>
    obtain ⟨hk, hl, hr⟩ := h
    have hk' : p.lo + k ≤ p.hi := by omega
    simp only [leaves2, split2_eq_ok p k hk']
    rw [ihl ⟨p.steps, p.lo, p.lo + k⟩ k rfl hl,
      ihr ⟨p.steps, p.lo + k, p.hi⟩ (n - k) (by simp only; omega) hr]
    simp only [split2_collect p k hk']

theorem leafProds2_spec (t : SplitTree) (p : Prod2 α) (n : Nat) (hn : p.lo + n = p.hi)
    (h : t.ValidC n) :
    ∃ ps, leafProds2 p t = some ps ∧ leafLens t n = some (ps.map Prod2.len) ∧
      (ps.map Prod2.collect).flatten = p.collect := by
  induction t generalizing p n with
  | leaf => exact ⟨[p], rfl, by simp [leafLens, Prod2.len, ← hn], by simp⟩
  | node k l r ihl ihr =>
    obtain ⟨hk, hl, hr⟩ := h
    have hk' : p.lo + k ≤ p.hi := by omega
    obtain ⟨psl, h1, h2, h3⟩ := ihl ⟨p.steps, p.lo, p.lo + k⟩ k rfl hl
    obtain ⟨psr, g1, g2, g3⟩ := ihr ⟨p.steps, p.lo + k, p.hi⟩ (n - k) (by simp only; omega) hr
    refine ⟨psl ++ psr, ?_, ?_, ?_⟩
    · simp only [leafProds2, split2_eq_ok p k hk', h1, g1]
    · simp only [leafLens, hk, if_true, h2, g2, List.map_append]
    · rw [List.map_append, List.flatten_append, h3, g3, split2_collect p k hk']

theorem reduce2_eq_sum {M : Type} [AddMonoid M] (f : α × α → M) (t : SplitTree) (p : Prod2 α) (n : Nat)
    (hn : p.lo + n = p.hi) (h : t.ValidC n) :
    reduce2 (· + ·) 0 f p t = some ((p.collect.map f).sum) := by
  induction t generalizing p n with
  | leaf => simp only [reduce2, List.sum_eq_foldl]
  | node k l r ihl ihr =>
    obtain ⟨hk, hl, hr⟩ := h
    have hk' : p.lo + k ≤ p.hi := by omega
    simp only [reduce2, split2_eq_ok p k hk']
    rw [ihl ⟨p.steps, p.lo, p.lo + k⟩ k rfl hl,
      ihr ⟨p.steps, p.lo + k, p.hi⟩ (n - k) (by simp only; omega) hr]
    simp only [← List.sum_append, ← List.map_append, split2_collect p k hk']

end scalar

theorem get2dIndices_flat {cols col : ℕ} (row : ℕ) (h : col < cols) :
    get2dIndices (row * cols + col) cols = (col, row) := by
  unfold get2dIndices
  rw [Nat.mul_add_mod_of_lt h, Nat.add_comm, Nat.add_mul_div_right _ _ (Nat.zero_lt_of_lt h),
    Nat.div_eq_of_lt h, Nat.zero_add]

theorem Steps2D.len_sq {α : Type} {g : Steps2D α} {n : ℕ} (hx : g.x.n = n) (hy : g.y.n = n) :
    g.len = n * n := by
  rw [Steps2D.len, hx, hy]

theorem flat_lt {rows cols i j : ℕ} (hi : i < rows) (hj : j < cols) : i * cols + j < rows * cols :=
  calc i * cols + j < i * cols + cols := Nat.add_lt_add_left hj _
    _ = (i + 1) * cols := (Nat.succ_mul i cols).symm
    _ ≤ rows * cols := Nat.mul_le_mul_right cols hi

theorem sum_range_sq {M : Type*} [AddCommMonoid M] (n : ℕ) (h : ℕ → M) :
    ∑ k ∈ Finset.range (n * n), h k = ∑ i : Fin n, ∑ j : Fin n, h (i.val * n + j.val) := by
  rw [Finset.sum_range, ← (finProdFinEquiv (m := n) (n := n)).sum_comp, Fintype.sum_prod_type]
  refine Finset.sum_congr rfl fun i _ => Finset.sum_congr rfl fun j _ => congrArg h ?_
  simp [finProdFinEquiv, Nat.mul_comm, Nat.add_comm]

section lists
variable {β : Type}

theorem flatten_succ (m : Nat → Nat → β) (r cols : Nat) :
    flatten m (r + 1) cols = flatten m r cols ++ (List.range cols).map (fun c => m r c) := by
  simp [flatten, List.range_succ]

theorem flatten_length (m : Nat → Nat → β) (rows cols : Nat) :
    (flatten m rows cols).length = rows * cols := by
  simp [flatten]

theorem flatten_getElem? (m : Nat → Nat → β) (rows cols r c : Nat) (hr : r < rows) (hc : c < cols) :
    (flatten m rows cols)[r * cols + c]? = some (m r c) := by
  induction rows with
  | zero => omega
  | succ R ih =>
    rw [flatten_succ]
    by_cases h : r < R
    · have hlt : r * cols + c < (flatten m R cols).length := by
        rw [flatten_length]
        exact flat_lt h hc
      rw [List.getElem?_append_left hlt]
      exact ih h
    · have hrR : r = R := by omega
      subst hrR
      have hge : (flatten m r cols).length ≤ r * cols + c := by rw [flatten_length]; omega
      rw [List.getElem?_append_right hge, flatten_length]
      simp [hc]

theorem div_ceil_mul (rows cols : Nat) (hc : 0 < cols) : (rows * cols + cols - 1) / cols = rows :=
  Nat.div_eq_of_lt_le (by omega) (by rw [Nat.succ_mul]; omega)

theorem chunks2_flat (l : List (β × β)) : chunks2 (l.flatMap fun p => [p.1, p.2]) = l := by
  induction l with
  | nil => simp [chunks2]
  | cons p r ih => simp [chunks2, ih]

/-- leaf `i` of a flattened list of lists is the slice between the prefix sums of the lengths (the list
fact behind `C15.enumerate_positions1/2`) -/
theorem slices_of_flatten {γ : Type} (col : γ → List β) (len : γ → Nat)
    (hlen : ∀ q, (col q).length = len q) (ps : List γ) :
    (ps.map len).sum = (ps.map col).flatten.length ∧
    ∀ i (hi : i < ps.length),
      ((ps.map col).flatten.take ((ps.map len).take (i + 1)).sum).drop ((ps.map len).take i).sum
        = col ps[i] := by
  have hl : (ps.map col).map List.length = ps.map len := by
    simp [List.map_map, Function.comp_def, hlen]
  refine ⟨by rw [List.length_flatten, hl], fun i hi => ?_⟩
  have := List.drop_take_succ_flatten_eq_getElem (ps.map col) i (by simpa using hi)
  rw [hl] at this
  simpa using this

theorem valid_validC (t : SplitTree) (n : Nat) (h : t.Valid n) : t.ValidC n := by
  induction t generalizing n with
  | leaf => trivial
  | node k l r ihl ihr =>
    obtain ⟨_, h2, hl, hr⟩ := h
    exact ⟨by omega, ihl _ hl, ihr _ hr⟩

end lists

section field
variable {K : Type} [Field K]

theorem recip_recip (c x : K) (hc : c ≠ 0) (hx : x ≠ 0) : recip c (recip c x) = x := by
  simp only [recip]; field_simp

variable [CharZero K]

theorem klit_zero : (0.0 : K) = 0 := by norm_num
theorem klit_one : (1.0 : K) = 1 := by norm_num
theorem klit_two : (2.0 : K) = 2 := by norm_num
theorem klit_three : (3.0 : K) = 3 := by norm_num
theorem klit_quarter : (0.25 : K) = 1 / 4 := by norm_num

theorem cast_pred_ne_zero {n : Nat} (h : 1 < n) : ((n - 1 : Nat) : K) ≠ 0 := by
  have : n - 1 ≠ 0 := by omega
  exact_mod_cast this

def Steps.h (s : Steps K) : K := (s.b - s.a) / ((s.n - 1 : Nat) : K)

-- the equation follows the definition, yet `[CharZero K]` is part of the signature
set_option linter.unusedSectionVars false in
theorem Steps.divisionWidth_eq (s : Steps K) : s.divisionWidth = s.h := rfl

/-- also for `n ≤ 1`: the step is `(b − a)/0 = 0` and every value is `a` -/
theorem Steps.value_affine (s : Steps K) (i : Nat) : s.value i = s.a + (i : K) * s.h := by
  by_cases hn : 1 < s.n
  · have hd := cast_pred_ne_zero (K := K) hn
    rw [s.value_of_gt hn, Steps.h]
    field_simp
    ring
  · rw [s.value_of_le (by omega), Steps.h, show s.n - 1 = 0 by omega]
    simp

theorem Steps.value_zero (s : Steps K) : s.value 0 = s.a := by
  rw [s.value_affine]; simp

theorem Steps.value_last (s : Steps K) (hn : 2 ≤ s.n) : s.value (s.n - 1) = s.b := by
  have hd := cast_pred_ne_zero (K := K) hn
  rw [s.value_affine, Steps.h]
  field_simp
  ring

theorem Steps.value_succ_sub (s : Steps K) (i : Nat) :
    s.value (i + 1) - s.value i = (s.b - s.a) / ((s.n - 1 : Nat) : K) := by
  rw [s.value_affine, s.value_affine, Steps.h]
  push_cast
  ring

theorem Steps.value_sub (p q : Steps K) (k : Nat) (ha : q.a = p.value k)
    (hb : 1 < q.n → q.b = p.value (k + (q.n - 1))) (j : Nat) (hj : j < q.n) :
    q.value j = p.value (k + j) := by
  by_cases hn : 1 < q.n
  · have hd := cast_pred_ne_zero (K := K) hn
    rw [q.value_affine, Steps.h, ha, hb hn, p.value_affine, p.value_affine, p.value_affine]
    push_cast
    field_simp
    ring
  · rw [q.value_of_le (by omega), ha, show j = 0 by omega, Nat.add_zero]

theorem lerp_eq (a b t : K) : lerp a b t = a * (1 - t) + b * t := by
  simp only [lerp, klit_one]

/-- `Steps::value` is `lerp` at the fraction `Steps2D::value` computes for one axis -/
theorem Steps.value_eq_lerp (s : Steps K) (i : Nat) :
    s.value i = lerp s.a s.b (if s.n > 1 then (i : K) / ((s.n - 1 : Nat) : K) else (0.0 : K)) := by
  rw [lerp_eq, s.value_affine, Steps.h]
  split_ifs with h
  · ring
  · rw [show s.n - 1 = 0 by omega, klit_zero]
    simp

theorem Steps2D.value_eq (s : Steps2D K) (k : Nat) :
    s.value k = (s.x.value (k % s.x.n), s.y.value (k / s.x.n)) := by
  simp only [Steps2D.value, get2dIndices, Steps.value_eq_lerp]

theorem fromSumDiff_toSumDiff (f : Steps2D K) :
    fromSumDiff (toSumDiff f)
      = ⟨⟨f.x.a + ((f.x.b - f.x.a) - (f.y.b - f.y.a)) / 4, f.x.b - ((f.x.b - f.x.a) - (f.y.b - f.y.a)) / 4, f.x.n⟩,
         ⟨f.y.a - ((f.x.b - f.x.a) - (f.y.b - f.y.a)) / 4, f.y.b + ((f.x.b - f.x.a) - (f.y.b - f.y.a)) / 4, f.y.n⟩⟩ := by
  simp only [fromSumDiff, toSumDiff, klit_two, klit_three, klit_quarter]
  congr 2 <;> ring

theorem split1_left_value (p : Steps K) (k j : Nat) (hj : j < k) :
    (⟨p.a, if k = 0 then p.a else p.value (k - 1), k⟩ : Steps K).value j = p.value j := by
  have h := p.value_sub ⟨p.a, if k = 0 then p.a else p.value (k - 1), k⟩ 0 p.value_zero.symm
    (fun _ => by simp only [if_neg (Nat.ne_zero_of_lt hj), Nat.zero_add]) j hj
  rwa [Nat.zero_add] at h

theorem split1_right_value (p : Steps K) (k j : Nat) (hj : j < p.n - k) :
    (⟨p.value k, p.b, p.n - k⟩ : Steps K).value j = p.value (k + j) :=
  p.value_sub _ k rfl
    (fun h => by simp only at h ⊢; rw [show k + (p.n - k - 1) = p.n - 1 by omega, p.value_last (by omega)])
    j hj

theorem split1_collect (p : Steps K) (k : Nat) (hk : k ≤ p.n) :
    (⟨p.a, if k = 0 then p.a else p.value (k - 1), k⟩ : Steps K).collect
      ++ (⟨p.value k, p.b, p.n - k⟩ : Steps K).collect = p.collect := by
  have hr : List.range p.n = List.range k ++ (List.range (p.n - k)).map (k + ·) := by
    rw [← List.range_add, Nat.add_sub_cancel' hk]
  simp only [Steps.collect]
  rw [hr, List.map_append, List.map_map]
  congr 1
  · exact List.map_congr_left fun j hj => split1_left_value p k j (List.mem_range.mp hj)
  · exact List.map_congr_left fun j hj => split1_right_value p k j (List.mem_range.mp hj)

theorem leafProds1_spec (t : SplitTree) (p : Steps K) (h : t.ValidC p.n) :
    ∃ ps, leafProds1 p t = some ps ∧ leafLens t p.n = some (ps.map (·.n)) ∧
      (ps.map Steps.collect).flatten = p.collect := by
  induction t generalizing p with
  | leaf => exact ⟨[p], rfl, rfl, by simp⟩
  | node k l r ihl ihr =>
    obtain ⟨hk, hl, hr⟩ := h
    obtain ⟨psl, h1, h2, h3⟩ := ihl ⟨p.a, if k = 0 then p.a else p.value (k - 1), k⟩ hl
    obtain ⟨psr, g1, g2, g3⟩ := ihr ⟨p.value k, p.b, p.n - k⟩ hr
    refine ⟨psl ++ psr, ?_, ?_, ?_⟩
    · simp only [leafProds1, split1_eq_ok p k hk, h1, g1]
    · simp only at h2 g2
      simp only [leafLens, hk, if_true, h2, g2, List.map_append]
    · rw [List.map_append, List.flatten_append, h3, g3, split1_collect p k hk]

end field

end Spdc.Grid
