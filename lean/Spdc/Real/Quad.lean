import Spdc.Model.Quad
import Spdc.Real.Inst
import Spdc.Real.GridLemmas
import Mathlib.Algebra.BigOperators.Ring.Finset
import Mathlib.Tactic.Ring
import Mathlib.Tactic.FieldSimp
import Mathlib.Tactic.NormNum
/-!
# Simpson quadrature over ℝ / ℂ (C12)

Composite Simpson is read in ℂ as a weighted `Finset` sum; its exactness on cubics is the telescoping of
the panel identity, and the 2-D rule is the 1-D rule applied twice.  Adaptive Simpson is walked through
the single step equation `quadAsr_succ`.
-/
open Finset
namespace Spdc.Quad
open Spdc.Grid

theorem simpsonW_toC (i d : ℕ) : ((simpsonW i d : ℝ) : ℂ) = simpsonW i d := by
  unfold simpsonW; split_ifs <;> norm_num

theorem simpsonW_symm {α : Type} [OfScientific α] (m i : ℕ) (hi : i ≤ 2 * m) :
    (simpsonW (2 * m - i) (2 * m) : α) = simpsonW i (2 * m) := by
  unfold simpsonW
  have h1 : (2 * m - i = 0 ∨ 2 * m - i = 2 * m) ↔ (i = 0 ∨ i = 2 * m) := by omega
  have h2 : (2 * m - i) % 2 = 1 ↔ i % 2 = 1 := by omega
  simp only [h1, h2]

theorem weighted_eq_panels (F : ℕ → ℂ) (m : ℕ) (hm : 1 ≤ m) :
    ∑ i ∈ range (2 * m + 1), simpsonW i (2 * m) * F i
      = ∑ j ∈ range m, (F (2 * j) + 4 * F (2 * j + 1) + F (2 * j + 2)) := by
  induction m, hm using Nat.le_induction with
  | base => norm_num [simpsonW, sum_range_succ]
  | succ m hm ih =>
    -- two more sub-intervals: the weights below `2m` stay, the old end weight 1 at `2m` becomes 2,
    -- and the new nodes `2m+1`, `2m+2` get 4 and 1
    have hlow : ∀ i ∈ range (2 * m), simpsonW i (2 * (m + 1)) * F i = simpsonW i (2 * m) * F i :=
      fun i hi => by
        have := mem_range.mp hi
        simp only [simpsonW, show ¬ i = 2 * (m + 1) by omega, show ¬ i = 2 * m by omega]
    have w0 : (simpsonW (2 * m) (2 * m) : ℂ) = 1 := by norm_num [simpsonW]
    have w1 : (simpsonW (2 * m) (2 * (m + 1)) : ℂ) = 2 := by
      norm_num [simpsonW, show 2 * m ≠ 0 by omega, show 2 * m ≠ 2 * (m + 1) by omega]
    have w2 : (simpsonW (2 * m + 1) (2 * (m + 1)) : ℂ) = 4 := by
      norm_num [simpsonW, show 2 * m + 1 ≠ 2 * (m + 1) by omega]
    have w3 : (simpsonW (2 * m + 2) (2 * (m + 1)) : ℂ) = 1 := by
      norm_num [simpsonW, show 2 * m + 2 = 2 * (m + 1) by ring]
    rw [sum_range_succ _ m, ← ih, show 2 * (m + 1) + 1 = 2 * m + 1 + 1 + 1 by ring, sum_range_succ,
      sum_range_succ, sum_range_succ, sum_range_succ _ (2 * m), sum_congr rfl hlow, w0, w1, w2, w3]
    ring

theorem simpsonSum_toC (f : ℝ → Cx ℝ) (a dx : ℝ) (d : ℕ) :
    (simpsonSum f a dx d).toC
      = ∑ i ∈ range (d + 1), simpsonW i d * (f (a + (i : ℝ) * dx)).toC := by
  unfold simpsonSum
  rw [Cx.toC_sum, List.map_map, list_range_map_sum]
  apply Finset.sum_congr rfl
  intro i _
  simp [Function.comp, simpsonW_toC, mul_comm]

theorem simpsonCore_toC (f : ℝ → Cx ℝ) (a b : ℝ) (d : ℕ) :
    (simpsonCore f a b d).toC
      = (∑ i ∈ range (d + 1), simpsonW i d * (f (a + (i : ℝ) * ((b - a) / (d : ℝ)))).toC)
          * ((((b - a) / (d : ℝ)) / 3 : ℝ) : ℂ) := by
  unfold simpsonCore
  simp only [Cx.toC_muls, simpsonSum_toC, lit_three]

def cubic (c0 c1 c2 c3 x : ℂ) : ℂ := c0 + c1 * x + c2 * x ^ 2 + c3 * x ^ 3
noncomputable def cubicAnti (c0 c1 c2 c3 x : ℂ) : ℂ := c0 * x + c1 * x ^ 2 / 2 + c2 * x ^ 3 / 3 + c3 * x ^ 4 / 4

theorem polyEval4_toC (c0 c1 c2 c3 : Cx ℝ) (x : ℝ) :
    (polyEval [c0, c1, c2, c3] x).toC = cubic c0.toC c1.toC c2.toC c3.toC x := by
  simp only [polyEval, List.foldr, Cx.toC_add', Cx.toC_muls, Cx.toC_zero, cubic]
  ring

theorem panel_exact_cubic (c0 c1 c2 c3 x h : ℂ) :
    (cubic c0 c1 c2 c3 x + 4 * cubic c0 c1 c2 c3 (x + h) + cubic c0 c1 c2 c3 (x + 2 * h)) * (h / 3)
      = cubicAnti c0 c1 c2 c3 (x + 2 * h) - cubicAnti c0 c1 c2 c3 x := by
  simp only [cubic, cubicAnti]; ring

theorem simpson_telescope (p P : ℂ → ℂ) (a h : ℂ) (m : ℕ) (hm : 1 ≤ m)
    (hp : ∀ x, (p x + 4 * p (x + h) + p (x + 2 * h)) * (h / 3) = P (x + 2 * h) - P x) :
    (∑ i ∈ range (2 * m + 1), simpsonW i (2 * m) * p (a + (i : ℂ) * h)) * (h / 3)
      = P (a + (2 * m : ℕ) * h) - P a := by
  rw [weighted_eq_panels (fun i => p (a + (i : ℂ) * h)) m hm, Finset.sum_mul]
  have : ∀ j ∈ range m, (p (a + ((2 * j : ℕ) : ℂ) * h) + 4 * p (a + ((2 * j + 1 : ℕ) : ℂ) * h)
      + p (a + ((2 * j + 2 : ℕ) : ℂ) * h)) * (h / 3)
      = P (a + ((2 * (j + 1) : ℕ) : ℂ) * h) - P (a + ((2 * j : ℕ) : ℂ) * h) := by
    intro j _
    have := hp (a + ((2 * j : ℕ) : ℂ) * h)
    have e1 : a + ((2 * j + 1 : ℕ) : ℂ) * h = a + ((2 * j : ℕ) : ℂ) * h + h := by push_cast; ring
    have e2 : a + ((2 * j + 2 : ℕ) : ℂ) * h = a + ((2 * j : ℕ) : ℂ) * h + 2 * h := by push_cast; ring
    have e3 : a + ((2 * (j + 1) : ℕ) : ℂ) * h = a + ((2 * j : ℕ) : ℂ) * h + 2 * h := by push_cast; ring
    rw [e1, e2, e3]; exact this
  rw [Finset.sum_congr rfl this]
  rw [Finset.sum_range_sub (fun j => P (a + ((2 * j : ℕ) : ℂ) * h))]; simp

/-- the step `h = (b − a)/2m` brings the telescoped sum from `a` to `b` -/
theorem simpsonCore_exact {f : ℝ → Cx ℝ} {c0 c1 c2 c3 : ℂ}
    (hf : ∀ x : ℝ, (f x).toC = cubic c0 c1 c2 c3 x) (a b : ℝ) (m : ℕ) (hm : 1 ≤ m) :
    (simpsonCore f a b (2 * m)).toC = cubicAnti c0 c1 c2 c3 b - cubicAnti c0 c1 c2 c3 a := by
  have hm0 : ((2 * m : ℕ) : ℂ) ≠ 0 := Nat.cast_ne_zero.mpr (by omega)
  have key := simpson_telescope (cubic c0 c1 c2 c3) (cubicAnti c0 c1 c2 c3) a
    (((b : ℂ) - a) / ((2 * m : ℕ) : ℂ)) m hm (fun x => panel_exact_cubic _ _ _ _ x _)
  rw [mul_div_cancel₀ _ hm0, add_sub_cancel] at key
  rw [simpsonCore_toC, ← key]
  simp only [hf]
  push_cast
  rfl

theorem simpsonDivs_of_ge {divs : ℕ} (h : 5 ≤ divs) : simpsonDivs divs = .ok (divs + divs % 2 - 2) := by
  rw [simpsonDivs, if_neg (by omega), if_neg (by omega)]

theorem simpsonDivs_ok {divs d : ℕ} (h : simpsonDivs divs = .ok d) :
    5 ≤ divs ∧ d = divs + divs % 2 - 2 ∧ ∃ m, 2 ≤ m ∧ d = 2 * m := by
  unfold simpsonDivs at h
  split_ifs at h with h1 h2
  injection h with h
  subst h
  refine ⟨by omega, rfl, (divs + divs % 2 - 2) / 2, by omega, by omega⟩

theorem simpsonDivs_isOk (divs : ℕ) : (simpsonDivs divs).isOk = true ↔ 5 ≤ divs := by
  unfold simpsonDivs
  split_ifs with h1 h2 <;> simp [Outcome.isOk] <;> omega

theorem simpson2dDivs_ok {divs d : ℕ} (h : simpson2dDivs divs = .ok d) :
    3 ≤ divs ∧ d = divs + divs % 2 ∧ ∃ m, 2 ≤ m ∧ d = 2 * m := by
  unfold simpson2dDivs at h
  split_ifs at h with h1
  injection h with h
  subst h
  refine ⟨by omega, rfl, (divs + divs % 2) / 2, by omega, by omega⟩

theorem simpson2dDivs_isOk (divs : ℕ) : (simpson2dDivs divs).isOk = true ↔ 3 ≤ divs := by
  unfold simpson2dDivs
  split_ifs with h1 <;> simp [Outcome.isOk] <;> omega

theorem simpsonCore_reverse (f : ℝ → Cx ℝ) (a b : ℝ) (m : ℕ) (hm : 1 ≤ m) :
    simpsonCore f b a (2 * m) = Cx.neg (simpsonCore f a b (2 * m)) := by
  have hm0 : ((2 * m : ℕ) : ℝ) ≠ 0 := Nat.cast_ne_zero.mpr (by omega)
  -- node `i` from `b` is node `2m − i` from `a`, and the weights are symmetric
  have hs : ∀ i ∈ range (2 * m + 1),
      simpsonW i (2 * m) * (f (b + (i : ℝ) * ((a - b) / ((2 * m : ℕ) : ℝ)))).toC
        = simpsonW (2 * m - i) (2 * m)
          * (f (a + ((2 * m - i : ℕ) : ℝ) * ((b - a) / ((2 * m : ℕ) : ℝ)))).toC := by
    intro i hi
    have hi' : i ≤ 2 * m := Nat.lt_succ_iff.mp (mem_range.mp hi)
    rw [simpsonW_symm m i hi', Nat.cast_sub hi']
    congr 3
    field_simp
    ring
  apply Cx.toC_injective
  rw [Cx.toC_neg', simpsonCore_toC, simpsonCore_toC, sum_congr rfl hs,
    sum_flip (fun i => simpsonW i (2 * m) * (f (a + (i : ℝ) * ((b - a) / ((2 * m : ℕ) : ℝ)))).toC)]
  push_cast
  ring

theorem simpsonCore_linear (f g : ℝ → Cx ℝ) (al be : Cx ℝ) (a b : ℝ) (d : ℕ) :
    simpsonCore (fun x => Cx.add (Cx.mul al (f x)) (Cx.mul be (g x))) a b d
      = Cx.add (Cx.mul al (simpsonCore f a b d)) (Cx.mul be (simpsonCore g a b d)) := by
  apply Cx.toC_injective
  simp only [Cx.toC_add', Cx.toC_mul', simpsonCore_toC]
  rw [← mul_assoc, ← mul_assoc, ← add_mul, Finset.mul_sum, Finset.mul_sum, ← Finset.sum_add_distrib]
  congr 1
  apply Finset.sum_congr rfl
  intro i _
  ring

theorem simpsonCore_mul_const (g : ℝ → Cx ℝ) (c : Cx ℝ) (a b : ℝ) (d : ℕ) :
    simpsonCore (fun x => Cx.mul (g x) c) a b d = Cx.mul (simpsonCore g a b d) c := by
  apply Cx.toC_injective
  simp only [simpsonCore_toC, Cx.toC_mul', Finset.sum_mul]
  refine Finset.sum_congr rfl fun i _ => ?_
  ring

theorem simpsonCore_const_mul (c : Cx ℝ) (g : ℝ → Cx ℝ) (a b : ℝ) (d : ℕ) :
    simpsonCore (fun x => Cx.mul c (g x)) a b d = Cx.mul c (simpsonCore g a b d) := by
  apply Cx.toC_injective
  simp only [simpsonCore_toC, Cx.toC_mul', Finset.sum_mul, Finset.mul_sum]
  refine Finset.sum_congr rfl fun i _ => ?_
  ring

/-- the `Steps`-based nodes of the 2-D rule are the nodes `a + i·(b − a)/d` of the 1-D rule, and
`dx·dy/9 = (dx/3)·(dy/3)` -/
theorem simpson2dCore_iter (f : ℝ → ℝ → Cx ℝ) (ax bx ay by_ : ℝ) (d : ℕ) :
    simpson2dCore f ax bx ay by_ d
      = simpsonCore (fun y => simpsonCore (fun x => f x y) ax bx d) ay by_ d := by
  apply Cx.toC_injective
  have hv (a b : ℝ) (i : ℕ) : Steps.value ⟨a, b, d + 1⟩ i = a + i * ((b - a) / d) := by
    rw [Steps.value_affine, Steps.h, Nat.add_sub_cancel]
  simp only [simpson2dCore, simpsonCore_toC, Cx.toC_muls, Cx.toC_sum, List.map_map, list_range_map_sum,
    Function.comp_def, hv, simpsonW_toC, show (9.0 : ℝ) = 9 by norm_num, Finset.sum_mul,
    Finset.mul_sum]
  push_cast
  refine Finset.sum_congr rfl fun j _ => Finset.sum_congr rfl fun i _ => ?_
  ring

theorem simpson2dCore_sep (g h : ℝ → Cx ℝ) (ax bx ay by_ : ℝ) (d : ℕ) :
    simpson2dCore (fun x y => Cx.mul (g x) (h y)) ax bx ay by_ d
      = Cx.mul (simpsonCore g ax bx d) (simpsonCore h ay by_ d) := by
  simp only [simpson2dCore_iter, simpsonCore_mul_const, simpsonCore_const_mul]

/-- bi-cubic integrand: rows are the coefficients of `y^j` -/
theorem poly2Eval44_toC (r0 r1 r2 r3 : Cx ℝ × Cx ℝ × Cx ℝ × Cx ℝ) (x y : ℝ) :
    (poly2Eval [[r0.1, r0.2.1, r0.2.2.1, r0.2.2.2], [r1.1, r1.2.1, r1.2.2.1, r1.2.2.2],
        [r2.1, r2.2.1, r2.2.2.1, r2.2.2.2], [r3.1, r3.2.1, r3.2.2.1, r3.2.2.2]] x y).toC
      = cubic (cubic r0.1.toC r1.1.toC r2.1.toC r3.1.toC y)
              (cubic r0.2.1.toC r1.2.1.toC r2.2.1.toC r3.2.1.toC y)
              (cubic r0.2.2.1.toC r1.2.2.1.toC r2.2.2.1.toC r3.2.2.1.toC y)
              (cubic r0.2.2.2.toC r1.2.2.2.toC r2.2.2.2.toC r3.2.2.2.toC y) x := by
  simp only [poly2Eval, List.foldr, Cx.toC_add', Cx.toC_muls, Cx.toC_zero, polyEval4_toC]
  simp only [cubic]; ring

/-- antiderivative in `x` of a bi-cubic, as a cubic in `y` -/
noncomputable def rowAnti (r : Cx ℝ × Cx ℝ × Cx ℝ × Cx ℝ) (a b : ℝ) : ℂ :=
  cubicAnti r.1.toC r.2.1.toC r.2.2.1.toC r.2.2.2.toC b - cubicAnti r.1.toC r.2.1.toC r.2.2.1.toC r.2.2.2.toC a

theorem quadSimpsonsMem_mid (f : ℝ → Cx ℝ) (a : ℝ) (fa : Cx ℝ) (b : ℝ) (fb : Cx ℝ) :
    (quadSimpsonsMem f a fa b fb).1 = (a + b) / 2 ∧ (quadSimpsonsMem f a fa b fb).2.1 = f ((a + b) / 2) := by
  simp [quadSimpsonsMem, lit_two]

theorem quadSimpsonsMem_val_toC (f : ℝ → Cx ℝ) (a : ℝ) (fa : Cx ℝ) (b : ℝ) (fb : Cx ℝ) :
    (quadSimpsonsMem f a fa b fb).2.2.toC
      = (((b - a) / 6 : ℝ) : ℂ) * (fa.toC + 4 * (f ((a + b) / 2)).toC + fb.toC) := by
  have h6 : (6.0 : ℝ) = 6 := by norm_num
  simp [quadSimpsonsMem, lit_two, lit_four, h6]

theorem quadSimpsonsMem_val_exact {f : ℝ → Cx ℝ} {c0 c1 c2 c3 : ℂ} (hf : ∀ x : ℝ, (f x).toC = cubic c0 c1 c2 c3 x)
    (a b : ℝ) :
    (quadSimpsonsMem f a (f a) b (f b)).2.2.toC = cubicAnti c0 c1 c2 c3 b - cubicAnti c0 c1 c2 c3 a := by
  simp only [quadSimpsonsMem_val_toC, hf, cubic, cubicAnti]
  push_cast; ring

theorem Cx.abs_zero_of_toC {z : Cx ℝ} (h : z.toC = 0) : Cx.abs z = 0 := by
  rw [Cx.abs_eq, h, norm_zero]

/-- one level of `quad_asr`; the last branch is the Richardson correction `delta/15` -/
theorem quadAsr_succ (f : ℝ → Cx ℝ) (a : ℝ) (fa : Cx ℝ) (b : ℝ) (fb : Cx ℝ) (eps : ℝ) (whole : Cx ℝ)
    (m : ℝ) (fm : Cx ℝ) (d : ℕ) :
    quadAsr f a fa b fb eps whole m fm (d + 1)
      = if asrStop a b eps then whole
        else if 15 * eps < Cx.abs (Cx.sub (Cx.add (quadSimpsonsMem f a fa m fm).2.2
            (quadSimpsonsMem f m fm b fb).2.2) whole) then
          Cx.add
            (quadAsr f a fa m fm (eps / 2) (quadSimpsonsMem f a fa m fm).2.2 ((a + m) / 2) (f ((a + m) / 2)) d)
            (quadAsr f m fm b fb (eps / 2) (quadSimpsonsMem f m fm b fb).2.2 ((m + b) / 2) (f ((m + b) / 2)) d)
        else Cx.add (Cx.add (quadSimpsonsMem f a fa m fm).2.2 (quadSimpsonsMem f m fm b fb).2.2)
          (Cx.divs (Cx.sub (Cx.add (quadSimpsonsMem f a fa m fm).2.2 (quadSimpsonsMem f m fm b fb).2.2)
            whole) 15) := by
  rw [quadAsr]
  simp only [lit_two, show (15.0 : ℝ) = 15 by norm_num, ite_not, quadSimpsonsMem_mid]

theorem quadAsr_exact {f : ℝ → Cx ℝ} {c0 c1 c2 c3 : ℂ} (hf : ∀ x : ℝ, (f x).toC = cubic c0 c1 c2 c3 x)
    {a b : ℝ} (eps : ℝ) {whole : Cx ℝ} (depth : ℕ)
    (hw : whole.toC = cubicAnti c0 c1 c2 c3 b - cubicAnti c0 c1 c2 c3 a) :
    (quadAsr f a (f a) b (f b) eps whole ((a + b) / 2) (f ((a + b) / 2)) depth).toC
      = cubicAnti c0 c1 c2 c3 b - cubicAnti c0 c1 c2 c3 a := by
  induction depth generalizing a b eps whole with
  | zero => exact hw
  | succ d ih =>
    have hl := quadSimpsonsMem_val_exact hf a ((a + b) / 2)
    have hr := quadSimpsonsMem_val_exact hf ((a + b) / 2) b
    rw [quadAsr_succ]
    split_ifs
    · exact hw
    · rw [Cx.toC_add', ih _ hl, ih _ hr]; ring
    · simp only [Cx.toC_add', Cx.toC_sub', Cx.toC_divs, hl, hr, hw]; push_cast; ring

/-- at most two evaluations per visited node of a binary tree of height `depth` -/
theorem quadAsrEvals_le (f : ℝ → Cx ℝ) (a : ℝ) (fa : Cx ℝ) (b : ℝ) (fb : Cx ℝ) (eps : ℝ) (whole : Cx ℝ)
    (m : ℝ) (fm : Cx ℝ) (depth : ℕ) :
    quadAsrEvals f a fa b fb eps whole m fm depth + 2 ≤ 2 ^ (depth + 1) := by
  fun_induction quadAsrEvals f a fa b fb eps whole m fm depth with
  | case1 => simp
  | case2 _ _ _ _ _ _ _ _ d => have := Nat.one_le_two_pow (n := d); omega
  | case3 _ _ _ _ _ _ _ _ d => have := Nat.one_le_two_pow (n := d); omega
  -- the `+ 2` makes the bound inductive: `E (d+1) ≤ 2 + 2·E d` doubles `E + 2`, not `E`
  | case4 _ _ _ _ _ _ _ _ d _ _ _ _ _ ihl ihr => omega

theorem asrStop_symm (a b eps : ℝ) : asrStop b a eps = asrStop a b eps := by
  simp only [asrStop, Transc.abs, abs_sub_comm]

theorem quadSimpsonsMem_val_rev (f : ℝ → Cx ℝ) (a : ℝ) (fa : Cx ℝ) (b : ℝ) (fb : Cx ℝ) :
    (quadSimpsonsMem f b fb a fa).2.2 = Cx.neg (quadSimpsonsMem f a fa b fb).2.2 := by
  apply Cx.toC_injective
  rw [Cx.toC_neg', quadSimpsonsMem_val_toC, quadSimpsonsMem_val_toC, add_comm b a]
  push_cast; ring

/-- both halves' Simpson values and `delta` are negated, so the same branches are taken -/
theorem quadAsr_reverse (f : ℝ → Cx ℝ) (a : ℝ) (fa : Cx ℝ) (b : ℝ) (fb : Cx ℝ) (eps : ℝ) (whole : Cx ℝ)
    (m : ℝ) (fm : Cx ℝ) (depth : ℕ) :
    quadAsr f b fb a fa eps (Cx.neg whole) m fm depth
      = Cx.neg (quadAsr f a fa b fb eps whole m fm depth) := by
  induction depth generalizing a fa b fb eps whole m fm with
  | zero => rfl
  | succ d ih =>
    have hdelta (L R : Cx ℝ) : Cx.sub (Cx.add (Cx.neg R) (Cx.neg L)) (Cx.neg whole)
        = Cx.neg (Cx.sub (Cx.add L R) whole) := by
      apply Cx.toC_injective; simp only [Cx.toC_sub', Cx.toC_add', Cx.toC_neg']; ring
    rw [quadAsr_succ, quadAsr_succ, asrStop_symm, quadSimpsonsMem_val_rev f m fm b fb, quadSimpsonsMem_val_rev f a fa m fm, hdelta,
      Cx.abs_neg', add_comm b m, add_comm m a, ih, ih]
    split_ifs
    · rfl
    · apply Cx.toC_injective; simp only [Cx.toC_add', Cx.toC_neg']; ring
    · apply Cx.toC_injective; simp only [Cx.toC_sub', Cx.toC_add', Cx.toC_neg', Cx.toC_divs]; ring

theorem asrStop_scale (a b eps : ℝ) {s : ℝ} (hs : 0 < s) : asrStop a b (s * eps) = asrStop a b eps := by
  simp only [asrStop, lit_two, mul_div_assoc, mul_lt_mul_iff_right₀ hs]

theorem quadSimpsonsMem_val_scale (f : ℝ → Cx ℝ) (c : Cx ℝ) (a : ℝ) (fa : Cx ℝ) (b : ℝ) (fb : Cx ℝ) :
    (quadSimpsonsMem (fun x => Cx.mul c (f x)) a (Cx.mul c fa) b (Cx.mul c fb)).2.2
      = Cx.mul c (quadSimpsonsMem f a fa b fb).2.2 := by
  apply Cx.toC_injective
  simp only [Cx.toC_mul', quadSimpsonsMem_val_toC]
  ring

/-- `|delta|` and `15·eps` both scale by `|c|`, so the subdivision tree is the same -/
theorem quadAsr_scale (f : ℝ → Cx ℝ) (c : Cx ℝ) (hc : 0 < Cx.abs c) (a : ℝ) (fa : Cx ℝ) (b : ℝ)
    (fb : Cx ℝ) (eps : ℝ) (whole : Cx ℝ) (m : ℝ) (fm : Cx ℝ) (depth : ℕ) :
    quadAsr (fun x => Cx.mul c (f x)) a (Cx.mul c fa) b (Cx.mul c fb) (Cx.abs c * eps)
        (Cx.mul c whole) m (Cx.mul c fm) depth
      = Cx.mul c (quadAsr f a fa b fb eps whole m fm depth) := by
  induction depth generalizing a fa b fb eps whole m fm with
  | zero => rfl
  | succ d ih =>
    have hdelta (L R : Cx ℝ) : Cx.sub (Cx.add (Cx.mul c L) (Cx.mul c R)) (Cx.mul c whole)
        = Cx.mul c (Cx.sub (Cx.add L R) whole) := by
      apply Cx.toC_injective; simp only [Cx.toC_sub', Cx.toC_add', Cx.toC_mul']; ring
    rw [quadAsr_succ, quadAsr_succ, asrStop_scale a b eps hc, quadSimpsonsMem_val_scale, quadSimpsonsMem_val_scale, hdelta,
      Cx.abs_mul', mul_left_comm]
    simp only [mul_lt_mul_iff_right₀ hc, mul_div_assoc, ih]
    split_ifs
    · rfl
    · apply Cx.toC_injective; simp only [Cx.toC_add', Cx.toC_mul']; ring
    · apply Cx.toC_injective; simp only [Cx.toC_sub', Cx.toC_add', Cx.toC_mul', Cx.toC_divs]; ring

end Spdc.Quad
