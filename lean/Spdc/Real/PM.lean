import Spdc.Model.PM
import Spdc.Real.Inst
import Mathlib.Tactic.FieldSimp
import Mathlib.Tactic.Ring
/-!
The coincidence integrand over ℝ: the exponent is treated in ℂ (`expo`, `expo_eq`, `expo_symm`) and tied to the
model's `Coef.exponent` through `Cx.toC`; the exchange of signal and idler on the coefficients (`Coef.exch`)
and the guard under which the integrand is a complex number (`Coef.Good`, `Good`); a node/weight sum sees its
integrand at the nodes only (`quadSum_congr`).
-/
namespace Spdc.PM

@[simp] theorem toC_addReal (x : ℝ) (z : Cx ℝ) : (addReal x z).toC = (x : ℂ) + z.toC := by
  apply Complex.ext <;> simp [addReal, Cx.toC]

/-- signal ↔ idler exchange of the ten coefficients -/
def Coef.exch {α : Type} (A : Coef α) : Coef α :=
  ⟨A.a3, A.a4, A.a1, A.a2, A.a7, A.a6, A.a5, A.a8, A.a9, A.a10⟩

/-- exponent of the coincidence integrand as coded, over ℂ -/
noncomputable def expo (A1 A2 A3 A4 A5 A6 A7 A8 A9 A10 : ℂ) : ℂ :=
  (4 * A10 - A1⁻¹ * (A5 * A5 + ((-2 * A1 * A7 + A5 * A8) * (-2 * A1 * A7 + A5 * A8)) / (4 * A1 * A3 - A8 * A8))
    - A2⁻¹ * (A6 * A6) * (1 + ((-2 * A2 + A9) * (-2 * A2 + A9)) / (4 * A2 * A4 - A9 * A9))) / 4

/-- With `A1⁻¹`, `A2⁻¹` multiplied in, the two subtracted terms are polynomials over `denom1`, `denom2` that
the exchange visibly leaves alone.  The denominators are variables `d1`, `d2`: `field_simp` clears each as one
atom, and the exchanged coefficients share them. -/
theorem expo_eq {A1 A2 A3 A4 A8 A9 d1 d2 : ℂ} (A5 A6 A7 A10 : ℂ) (h1 : A1 ≠ 0) (h2 : A2 ≠ 0)
    (hd1 : d1 ≠ 0) (hd2 : d2 ≠ 0) (e1 : 4 * A1 * A3 - A8 * A8 = d1) (e2 : 4 * A2 * A4 - A9 * A9 = d2) :
    expo A1 A2 A3 A4 A5 A6 A7 A8 A9 A10
      = A10 - (A3 * A5 * A5 - A5 * A7 * A8 + A1 * A7 * A7) / d1 - A6 * A6 * (A2 + A4 - A9) / d2 := by
  rw [expo, e1, e2]
  field_simp
  rw [← e1, ← e2]
  ring

theorem expo_symm (A1 A2 A3 A4 A5 A6 A7 A8 A9 A10 : ℂ)
    (h1 : A1 ≠ 0) (h2 : A2 ≠ 0) (h3 : A3 ≠ 0) (h4 : A4 ≠ 0)
    (hd1 : 4 * A1 * A3 - A8 * A8 ≠ 0) (hd2 : 4 * A2 * A4 - A9 * A9 ≠ 0) :
    expo A3 A4 A1 A2 A7 A6 A5 A8 A9 A10 = expo A1 A2 A3 A4 A5 A6 A7 A8 A9 A10 := by
  rw [expo_eq A5 A6 A7 A10 h1 h2 hd1 hd2 rfl rfl,
    expo_eq A7 A6 A5 A10 h3 h4 hd1 hd2 (by ring) (by ring)]
  ring

theorem denom1_toC (A : Coef ℝ) :
    A.denom1.toC = 4 * A.a1.toC * A.a3.toC - A.a8.toC * A.a8.toC := by
  simp [Coef.denom1, lit_four]
theorem denom2_toC (A : Coef ℝ) :
    A.denom2.toC = 4 * A.a2.toC * A.a4.toC - A.a9.toC * A.a9.toC := by
  simp [Coef.denom2, lit_four]

theorem exponent_toC (A : Coef ℝ) :
    A.exponent.toC = expo A.a1.toC A.a2.toC A.a3.toC A.a4.toC A.a5.toC A.a6.toC A.a7.toC
      A.a8.toC A.a9.toC A.a10.toC := by
  simp only [Coef.exponent, expo, Cx.toC_divs, Cx.toC_sub, Cx.toC_smul, Cx.toC_mul, Cx.toC_inv,
    Cx.toC_add, Cx.toC_div, toC_addReal, denom1_toC, denom2_toC, lit_four, lit_two, lit_one]
  push_cast
  ring

/-- the non-degeneracy guard under which the integrand is a well-defined complex number -/
structure Coef.Good (A : Coef ℝ) : Prop where
  h1 : A.a1.toC ≠ 0
  h2 : A.a2.toC ≠ 0
  h3 : A.a3.toC ≠ 0
  h4 : A.a4.toC ≠ 0
  hd1 : A.denom1.toC ≠ 0
  hd2 : A.denom2.toC ≠ 0

/-- the guard at a point of the z-axis -/
def Good (S : Setup ℝ) (ωs ωi z : ℝ) : Prop := (coef S ωs ωi z).Good

theorem quadSum_congr {nodes : List (ℝ × ℝ)} {f g : ℝ → Cx ℝ} (h : ∀ p ∈ nodes, f p.1 = g p.1) :
    quadSum nodes f = quadSum nodes g := by
  unfold quadSum
  rw [List.map_congr_left fun p hp => by rw [h p hp]]

theorem pmCoincSimpson_eq_ok (S : Setup ℝ) (divs : Nat) (ωs ωi : ℝ)
    (h1 : ¬ divs + divs % 2 < 2) (h2 : ¬ divs + divs % 2 - 2 < 4) :
    pmCoincSimpson S divs ωs ωi = .ok (pmCoincQ S (simpsonNodes (divs + divs % 2 - 2))
      ((((1.0 : ℝ) - (-(1.0 : ℝ))) / ((divs + divs % 2 - 2 : Nat) : ℝ)) / (3.0 : ℝ)) ωs ωi) := by
  simp only [pmCoincSimpson, h1, h2, if_false]

end Spdc.PM
