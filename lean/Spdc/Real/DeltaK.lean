import Spdc.Model.DeltaK
import Spdc.Real.Inst
import Spdc.Real.Outcome
import Mathlib.Analysis.SpecialFunctions.Trigonometric.Inverse
import Mathlib.Analysis.SpecialFunctions.Trigonometric.Basic
import Mathlib.Algebra.Order.Floor.Ring
import Mathlib.Tactic.LinearCombination
import Mathlib.Tactic.FieldSimp
import Mathlib.Tactic.Positivity
/-!
`Model/DeltaK.lean` over ℝ (C03, C04): each model definition gets its equation in Mathlib's terms; momentum
closing then is vector algebra and plane geometry over variables.

`freqOfWavelength`, `wavelengthOfFreq` and `normalizeAngle` here are the Δk layer's own transcription of the
crate's `utils.rs`; the others are `Units.*` (`Real/Beam.lean`) and `Cfg.wlToFreq` / `freqToWl`
(`Real/Config.lean`); `Compose.wavelengthOfFreq_units` / `freqOfWavelength_units` (`Real/ComposeLemmas.lean`)
identify the wavelength ↔ frequency conversions of this layer and of `Units`.
-/
namespace Spdc.DeltaK
open Real

-- the `Transc` fields at ℝ are Mathlib's functions; for rewriting
theorem tsin (x : ℝ) : Transc.sin x = Real.sin x := rfl
theorem tcos (x : ℝ) : Transc.cos x = Real.cos x := rfl
theorem tasin (x : ℝ) : Transc.asin x = Real.arcsin x := rfl
theorem tsqrt (x : ℝ) : Transc.sqrt x = Real.sqrt x := rfl
theorem tpi : (Transc.pi : ℝ) = π := rfl
theorem tabs (x : ℝ) : Transc.abs x = |x| := rfl
theorem tfloor (x : ℝ) : Transc.floor x = (⌊x⌋ : ℝ) := rfl

theorem twoPi_eq : (twoPi : ℝ) = 2 * π := by
  simp only [twoPi, lit_two, tpi]

theorem twoPi_pos : (0 : ℝ) < twoPi := by
  rw [twoPi_eq]; positivity

theorem c0_pos : (0 : ℝ) < c0 := by
  simp only [c0]; norm_num

theorem signMul_eq (neg : Bool) (x : ℝ) : signMul neg x = if neg then -x else x := by
  cases neg <;> simp [signMul, lit_one]

theorem signMul_ne_zero (neg : Bool) {x : ℝ} (h : x ≠ 0) : signMul neg x ≠ 0 := by
  rw [signMul_eq]; cases neg <;> simp [h]

theorem abs_signMul (neg : Bool) (x : ℝ) : |signMul neg x| = |x| := by
  rw [signMul_eq]; cases neg <;> simp

theorem kEff_off : kEff (Poling.off : Poling ℝ) = .ok 0 := by
  simp [kEff, lit_zero]

theorem kEff_on {p : ℝ} (neg : Bool) (hp : 0 < p) :
    kEff (Poling.on p neg) = .ok (2 * π / signMul neg p) := by
  simp [kEff, lit_zero, lit_one, hp, twoPi_eq]

theorem kEff_on_nonpos {p : ℝ} (neg : Bool) (hp : p ≤ 0) :
    (kEff (Poling.on p neg)).isPanic = true := by
  simp [kEff, lit_zero, not_lt.mpr hp, Outcome.isPanic]

/-- `kpp ls pp`, the `k_pp` of `try_new_optimum`, is `k_eff` in units of `2π / ls` -/
theorem kEff_eq_kpp {ls : ℝ} (hls : ls ≠ 0) (pp : Poling ℝ) {ke : ℝ} (h : kEff pp = .ok ke) :
    ke = 2 * π / ls * kpp ls pp := by
  cases pp with
  | off =>
    cases kEff_off.symm.trans h
    simp [kpp, lit_zero]
  | on p neg =>
    by_cases hp : 0 < p
    · cases (kEff_on neg hp).symm.trans h
      have := signMul_ne_zero neg hp.ne'
      simp only [kpp]
      field_simp
    · simp [kEff, lit_zero, hp] at h

theorem freqOfWavelength_eq (l : ℝ) : freqOfWavelength l = 2 * π * c0 / l := by
  simp [freqOfWavelength, lit_one, twoPi_eq]

theorem wavelengthOfFreq_eq (w : ℝ) : wavelengthOfFreq w = 2 * π * c0 / w := by
  simp [wavelengthOfFreq, lit_one, twoPi_eq]

theorem wavelength_freq_roundtrip (l : ℝ) : wavelengthOfFreq (freqOfWavelength l) = l := by
  rw [freqOfWavelength_eq, wavelengthOfFreq_eq, div_div_cancel₀ (mul_pos (by positivity) c0_pos).ne']

theorem normalizeAngle_spec (x : ℝ) :
    ∃ n : ℤ, normalizeAngle x = x - 2 * π * n ∧ 0 ≤ normalizeAngle x ∧ normalizeAngle x < 2 * π := by
  have h2pi : 0 < 2 * π := by positivity
  unfold normalizeAngle remEuclidTau
  simp only [twoPi_eq, lit_zero, tfloor]
  split_ifs with h1 h2 h3
  · exact ⟨0, by simp, not_lt.mp h1.1, h1.2⟩
  · exact ⟨1, by simp, by linarith [not_lt.mp h2.1], by linarith [h2.2]⟩
  · exact ⟨-1, by push_cast; ring, by linarith [h3.1], by linarith [h3.2]⟩
  · refine ⟨⌊x / (2 * π)⌋, rfl, ?_, ?_⟩
    · rw [mul_comm]; exact Int.sub_floor_div_mul_nonneg x h2pi
    · rw [mul_comm]; exact Int.sub_floor_div_mul_lt x h2pi

theorem remEuclidTau_of_mem {x : ℝ} (h0 : 0 ≤ x) (h1 : x < 2 * π) : remEuclidTau x = x := by
  unfold remEuclidTau
  simp only [twoPi_eq, lit_zero]
  rw [if_pos ⟨not_lt.mpr h0, h1⟩]

theorem remEuclidTau_of_neg {x : ℝ} (h0 : -(2 * π) < x) (h1 : x < 0) :
    remEuclidTau x = x + 2 * π := by
  have hpi := Real.pi_pos
  unfold remEuclidTau
  simp only [twoPi_eq, lit_zero]
  rw [if_neg (fun h => h.1 h1), if_neg (fun h => h.1 (by linarith)), if_pos ⟨h0, h1⟩]

theorem normalizeAngleSigned_of_mem {x : ℝ} (h0 : -π < x) (h1 : x ≤ π) :
    normalizeAngleSigned x = x := by
  have hpi := Real.pi_pos
  unfold normalizeAngleSigned
  simp only [tpi, twoPi_eq]
  by_cases hx : 0 ≤ x
  · rw [remEuclidTau_of_mem hx (by linarith), if_neg (not_lt.mpr h1)]
  · rw [remEuclidTau_of_neg (by linarith) (not_le.mp hx), if_pos (by linarith)]
    ring

theorem dirFromPolar_eq (phi theta : ℝ) :
    dirFromPolar phi theta =
      ⟨Real.sin theta * Real.cos phi, Real.sin theta * Real.sin phi, Real.cos theta⟩ := by
  simp only [dirFromPolar, tsin, tcos, tsqrt, polar_normSq, Real.sqrt_one, div_one]

theorem dirFromPolar_normalizeAngle (phi theta : ℝ) :
    dirFromPolar (normalizeAngle phi) theta = dirFromPolar phi theta := by
  obtain ⟨n, h, -, -⟩ := normalizeAngle_spec phi
  rw [dirFromPolar_eq, dirFromPolar_eq, h, mul_comm (2 * π) (n : ℝ), Real.cos_sub_int_mul_two_pi,
    Real.sin_sub_int_mul_two_pi]

theorem optimumIdler_of_le {i : IdlerIn ℝ} (h : i.ls ≤ i.lp) :
    optimumIdler i = .err "Signal wavelength must be greater than Pump wavelength" := by
  simp [optimumIdler, h]

theorem optimumIdler_of_lt {i : IdlerIn ℝ} (h : i.lp < i.ls) :
    optimumIdler i = .ok
      { pol := i.pm.idlerPol
        phi := normalizeAngle (normalizeAngle (i.phiS + π))
        theta := normalizeAngleSigned (idlerThetaRaw i)
        omega := freqOfWavelength (idlerLambda i.ls i.lp)
        wx := i.wx
        wy := i.wy } := by
  simp [optimumIdler, not_le.mpr h, lit_one, tpi]

theorem optimumIdler_ok {i : IdlerIn ℝ} {o : IdlerOut ℝ} (h : optimumIdler i = .ok o) :
    i.lp < i.ls ∧ o =
      { pol := i.pm.idlerPol
        phi := normalizeAngle (normalizeAngle (i.phiS + π))
        theta := normalizeAngleSigned (idlerThetaRaw i)
        omega := freqOfWavelength (idlerLambda i.ls i.lp)
        wx := i.wx
        wy := i.wy } := by
  by_cases hle : i.ls ≤ i.lp
  · rw [optimumIdler_of_le hle] at h; cases h
  · have hlt := not_le.mp hle
    rw [optimumIdler_of_lt hlt] at h
    exact ⟨hlt, by injection h with h; exact h.symm⟩

theorem np_optimumIdler (i : IdlerIn ℝ) : Outcome.NP (optimumIdler i) := by
  unfold optimumIdler
  split <;> rfl

theorem normalizeAngleSigned_arcsin (x : ℝ) :
    normalizeAngleSigned (Real.arcsin x) = Real.arcsin x := by
  have hpi := Real.pi_pos
  exact normalizeAngleSigned_of_mem (by linarith [Real.neg_pi_div_two_le_arcsin x])
    (by linarith [Real.arcsin_le_pi_div_two x])

theorem idlerTheta_forward {i : IdlerIn ℝ} (hcp : i.cp = false) (h0 : -(π / 2) < i.thetaS)
    (h1 : i.thetaS < π / 2) :
    normalizeAngleSigned (idlerThetaRaw i) = Real.arcsin (i.ns * Real.sin i.thetaS /
      Real.sqrt (idlerArg i.ns i.np i.ls i.lp i.thetaS i.pp)) := by
  have hcos : ¬ Real.cos i.thetaS < 0 := (Real.cos_pos_of_mem_Ioo ⟨h0, h1⟩).le.not_gt
  simp only [idlerThetaRaw, hcp, tsin, tcos, tasin, tsqrt, lit_zero, hcos, decide_false,
    Bool.xor_false, Bool.false_eq_true, if_false]
  exact normalizeAngleSigned_arcsin _

theorem deltaK_eq_sub {ds di dp : Vec3 ℝ} {ns ni np ws wi wp : ℝ} {pp : Poling ℝ} {ke : ℝ}
    (h : kEff pp = .ok ke) :
    deltaK ds di dp ns ni np ws wi wp pp = .ok (Vec3.sub (Vec3.sub (Vec3.sub (wavevector dp np wp)
      (wavevector ds ns ws)) (wavevector di ni wi)) ⟨0, 0, ke⟩) := by
  simp only [deltaK, h, Outcome.map_ok, lit_zero, lit_one, mul_zero, mul_one]

/-- `arcsin (a/r)` is the polar angle of `(a, z)` in the half plane `z ≥ 0` -/
theorem sin_cos_arcsin_div {a z r : ℝ} (hz : 0 ≤ z) (hr : 0 < r) (h : r ^ 2 = a ^ 2 + z ^ 2) :
    Real.sin (Real.arcsin (a / r)) = a / r ∧ Real.cos (Real.arcsin (a / r)) = z / r := by
  have ha : |a| ≤ r := abs_le_of_sq_le_sq (h ▸ le_add_of_nonneg_right (sq_nonneg z)) hr.le
  refine ⟨Real.sin_arcsin ?_ ?_, ?_⟩
  · rw [le_div_iff₀ hr]; linarith [(abs_le.mp ha).1]
  · exact (div_le_one hr).mpr (abs_le.mp ha).2
  · rw [Real.cos_arcsin, show 1 - (a / r) ^ 2 = (z / r) ^ 2 by field_simp; linarith,
      Real.sqrt_sq (div_nonneg hz hr.le)]

theorem dirFromPolar_add_pi_arcsin {a z r : ℝ} (phi : ℝ) (hz : 0 ≤ z) (hr : 0 < r)
    (h : r ^ 2 = a ^ 2 + z ^ 2) :
    dirFromPolar (phi + π) (Real.arcsin (a / r)) =
      Vec3.smul (1 / r) ⟨-(a * Real.cos phi), -(a * Real.sin phi), z⟩ := by
  obtain ⟨hs, hc⟩ := sin_cos_arcsin_div hz hr h
  simp only [dirFromPolar_eq, hs, hc, Real.cos_add_pi, Real.sin_add_pi, Vec3.smul, Vec3.mk.injEq]
  exact ⟨by ring, by ring, by ring⟩

/-- `K − k·d` stays along `d` when `d` is along `K` (in use the unit vector: `c = a·K`, `N = ‖c‖`, `K = (b·N)·d`) -/
theorem sub_smul_of_parallel {K c d : Vec3 ℝ} {a b N : ℝ} (hab : b * a = 1) (hN : N ≠ 0)
    (hc : c = Vec3.smul a K) (hd : d = Vec3.smul (1 / N) c) (k : ℝ) :
    Vec3.sub K (Vec3.smul k d) = Vec3.smul (b * N - k) d := by
  subst hc hd
  have e : ∀ t : ℝ, (b * N - k) * (1 / N * (a * t)) = t - k * (1 / N * (a * t)) := fun t => by
    field_simp; linear_combination (t * N) * hab
  simp only [Vec3.sub, Vec3.smul, e]

end Spdc.DeltaK
