import Spdc.Model.PMType
/-!
`PMType.inverse` on the polarizations (C06, C16).

The string forms (C16-T4): what `matchRe` accepts has the shape `pre ++ k :: mid ++ [a, b]` with
`matchHead d pre` and at most two characters `mid`.  Only this direction is proved, and no regex semantics is formalised: that
`matchRe` decides the crate's regexes is left to the correspondence run (op `pm_parse`).
-/
namespace Spdc.PM

theorem PMType.inverse_signalPol (t : PMType) : t.inverse.signalPol = t.idlerPol := by cases t <;> rfl
theorem PMType.inverse_idlerPol (t : PMType) : t.inverse.idlerPol = t.signalPol := by cases t <;> rfl
theorem PMType.inverse_pumpPol (t : PMType) : t.inverse.pumpPol = t.pumpPol := by cases t <;> rfl
theorem PMType.inverse_inverse (t : PMType) : t.inverse.inverse = t := by cases t <;> rfl

/-- what `midOk` accepts (a reversed text) reads `HEAD P .{0,2}` from its far end -/
theorem midOk_sound {d p : Char} {rev : List Char} (h : midOk d p rev = true) :
    ∃ mid k hd, rev = mid ++ k :: hd ∧ mid.length ≤ 2 ∧ mid.all notNl = true ∧ lower k = p ∧
      matchHead d hd.reverse = true := by
  unfold midOk at h
  simp only [Bool.or_eq_true] at h
  rcases h with (h | h) | h
  · match rev, h with
    | k :: hd, h => exact ⟨[], k, hd, by simpa [eqCI] using h⟩
  · match rev, h with
    | a :: k :: hd, h => exact ⟨[a], k, hd, by simpa [eqCI, and_assoc] using h⟩
  · match rev, h with
    | a :: b :: k :: hd, h => exact ⟨[a, b], k, hd, by simpa [eqCI, and_assoc] using h⟩

theorem matchRe_sound {d p s i : Char} {cs : List Char} (h : matchRe d p s i cs = true) :
    ∃ pre k mid a b, cs = pre ++ k :: mid ++ [a, b] ∧ mid.length ≤ 2 ∧ lower k = p ∧
      lower a = s ∧ lower b = i ∧ mid.all notNl = true ∧ matchHead d pre = true := by
  unfold matchRe at h
  split at h
  · rename_i ci cs' rest hrev
    simp only [Bool.and_eq_true, eqCI, beq_iff_eq] at h
    obtain ⟨mid, k, hd, rfl, hlen, hnl, hk, hhead⟩ := midOk_sound h.2
    refine ⟨hd.reverse, k, mid.reverse, cs', ci, ?_, by simpa using hlen, hk, h.1.2, h.1.1,
      by simpa using hnl, hhead⟩
    simpa using congrArg List.reverse hrev
  · cases h

theorem parse_matchT {cs : List Char} {t : PMType} (h : parse cs = some t) : matchT t cs = true := by
  unfold parse at h; grind

end Spdc.PM
