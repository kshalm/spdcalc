import Spdc.Real.CrystalLemmas
/-! # C01: every per-axis squared-index function is `GoodOn` its window; `indices` component by component -/
namespace Spdc.Crystals
open Set

theorem bboNo_good : GoodOn (bboNoSq (α := ℝ)) 0.189 3.5 :=
  ⟨sellA_anti (by norm_num) (by norm_num) (by norm_num) (by norm_num), by norm_num,
   by simp only [bboNoSq, sellA, sqr]; norm_num, by simp only [bboNoSq, sellA, sqr]; norm_num⟩
theorem bboNe_good : GoodOn (bboNeSq (α := ℝ)) 0.189 3.5 :=
  ⟨sellA_anti (by norm_num) (by norm_num) (by norm_num) (by norm_num), by norm_num,
   by simp only [bboNeSq, sellA, sqr]; norm_num, by simp only [bboNeSq, sellA, sqr]; norm_num⟩
theorem biboNx_good : GoodOn (biboNxSq (α := ℝ)) 0.286 2.5 :=
  ⟨sellA_anti (by norm_num) (by norm_num) (by norm_num) (by norm_num), by norm_num,
   by simp only [biboNxSq, sellA, sqr]; norm_num, by simp only [biboNxSq, sellA, sqr]; norm_num⟩
theorem biboNy_good : GoodOn (biboNySq (α := ℝ)) 0.286 2.5 :=
  ⟨sellA_anti (by norm_num) (by norm_num) (by norm_num) (by norm_num), by norm_num,
   by simp only [biboNySq, sellA, sqr]; norm_num, by simp only [biboNySq, sellA, sqr]; norm_num⟩
theorem biboNz_good : GoodOn (biboNzSq (α := ℝ)) 0.286 2.5 :=
  ⟨sellA_anti (by norm_num) (by norm_num) (by norm_num) (by norm_num), by norm_num,
   by simp only [biboNzSq, sellA, sqr]; norm_num, by simp only [biboNzSq, sellA, sqr]; norm_num⟩
theorem lnNo_good : GoodOn (lnNoSq (α := ℝ)) 0.4 3.4 :=
  ⟨sellA_anti (by norm_num) (by norm_num) (by norm_num) (by norm_num), by norm_num,
   by simp only [lnNoSq, sellA, sqr]; norm_num, by simp only [lnNoSq, sellA, sqr]; norm_num⟩
theorem lnNe_good : GoodOn (lnNeSq (α := ℝ)) 0.4 3.4 :=
  ⟨sellA_anti (by norm_num) (by norm_num) (by norm_num) (by norm_num), by norm_num,
   by simp only [lnNeSq, sellA, sqr]; norm_num, by simp only [lnNeSq, sellA, sqr]; norm_num⟩
theorem ktpNx_good : GoodOn (ktpNxSq (α := ℝ)) 0.35 3.5 :=
  ⟨sellB_anti (by norm_num) (by norm_num) (by norm_num) (by norm_num) (by norm_num), by norm_num,
   by simp only [ktpNxSq, sellB, sqr]; norm_num, by simp only [ktpNxSq, sellB, sqr]; norm_num⟩
theorem ktpNyLo_good : GoodOn (ktpNySqLo (α := ℝ)) 0.35 3.5 :=
  ⟨sellB_anti (by norm_num) (by norm_num) (by norm_num) (by norm_num) (by norm_num), by norm_num,
   by simp only [ktpNySqLo, sellB, sqr]; norm_num, by simp only [ktpNySqLo, sellB, sqr]; norm_num⟩
theorem ktpNyHi_good : GoodOn (ktpNySqHi (α := ℝ)) 0.35 3.5 :=
  ⟨sellB_anti (by norm_num) (by norm_num) (by norm_num) (by norm_num) (by norm_num), by norm_num,
   by simp only [ktpNySqHi, sellB, sqr]; norm_num, by simp only [ktpNySqHi, sellB, sqr]; norm_num⟩
theorem ktpNz_good : GoodOn (ktpNzSq (α := ℝ)) 0.35 3.5 :=
  ⟨sellB_anti (by norm_num) (by norm_num) (by norm_num) (by norm_num) (by norm_num), by norm_num,
   by simp only [ktpNzSq, sellB, sqr]; norm_num, by simp only [ktpNzSq, sellB, sqr]; norm_num⟩
theorem kdpNo_good : GoodOn (kdpNoSq (α := ℝ)) 0.2 1.5 :=
  ⟨sellK_anti (by norm_num) (by norm_num) (by norm_num) (by norm_num) (by norm_num) (by norm_num), by norm_num,
   by simp only [kdpNoSq, sellK, sqr]; norm_num, by simp only [kdpNoSq, sellK, sqr]; norm_num⟩
theorem kdpNe_good : GoodOn (kdpNeSq (α := ℝ)) 0.2 1.5 :=
  ⟨sellK_anti (by norm_num) (by norm_num) (by norm_num) (by norm_num) (by norm_num) (by norm_num), by norm_num,
   by simp only [kdpNeSq, sellK, sqr]; norm_num, by simp only [kdpNeSq, sellK, sqr]; norm_num⟩
theorem ags1No_good : GoodOn (ags1NoSq (α := ℝ)) 1 13.5 :=
  ⟨sellInv_anti (by norm_num) (by norm_num) (by norm_num) (by norm_num) (by norm_num) (by norm_num) (by norm_num), by norm_num,
   by simp only [ags1NoSq, sellInv, sqr, lit_one]; norm_num, by simp only [ags1NoSq, sellInv, sqr, lit_one]; norm_num⟩
theorem ags1Ne_good : GoodOn (ags1NeSq (α := ℝ)) 1 13.5 :=
  ⟨sellInv_anti (by norm_num) (by norm_num) (by norm_num) (by norm_num) (by norm_num) (by norm_num) (by norm_num), by norm_num,
   by simp only [ags1NeSq, sellInv, sqr, lit_one]; norm_num, by simp only [ags1NeSq, sellInv, sqr, lit_one]; norm_num⟩
theorem ags2No_good : GoodOn (ags2NoSq (α := ℝ)) 1 13.5 :=
  ⟨sellInv_anti (by norm_num) (by norm_num) (by norm_num) (by norm_num) (by norm_num) (by norm_num) (by norm_num), by norm_num,
   by simp only [ags2NoSq, sellInv, sqr, lit_one]; norm_num, by simp only [ags2NoSq, sellInv, sqr, lit_one]; norm_num⟩
theorem ags2Ne_good : GoodOn (ags2NeSq (α := ℝ)) 1 13.5 :=
  ⟨sellInv_anti (by norm_num) (by norm_num) (by norm_num) (by norm_num) (by norm_num) (by norm_num) (by norm_num), by norm_num,
   by simp only [ags2NeSq, sellInv, sqr, lit_one]; norm_num, by simp only [ags2NeSq, sellInv, sqr, lit_one]; norm_num⟩
theorem lio2No_good : GoodOn (lio2NoSq (α := ℝ)) 0.3 5 :=
  ⟨sellP_anti (by norm_num) (by norm_num) (by norm_num), by norm_num,
   by simp only [lio2NoSq, sellP, sqr]; norm_num, by simp only [lio2NoSq, sellP, sqr]; norm_num⟩
theorem lio2Ne_good : GoodOn (lio2NeSq (α := ℝ)) 0.3 5 :=
  ⟨sellP_anti (by norm_num) (by norm_num) (by norm_num), by norm_num,
   by simp only [lio2NeSq, sellP, sqr]; norm_num, by simp only [lio2NeSq, sellP, sqr]; norm_num⟩
theorem lio1No_good : GoodOn (lio1NoSq (α := ℝ)) 0.3 5 :=
  ⟨sellStd_anti (by norm_num) (by norm_num) (by norm_num) (by norm_num) (by norm_num) (by norm_num) (by norm_num), by norm_num,
   by simp only [lio1NoSq, sellStd, lit_zero]; norm_num, by simp only [lio1NoSq, sellStd, lit_zero]; norm_num⟩
theorem lio1Ne_good : GoodOn (lio1NeSq (α := ℝ)) 0.3 5 :=
  ⟨sellStd_anti (by norm_num) (by norm_num) (by norm_num) (by norm_num) (by norm_num) (by norm_num) (by norm_num), by norm_num,
   by simp only [lio1NeSq, sellStd, lit_zero]; norm_num, by simp only [lio1NeSq, sellStd, lit_zero]; norm_num⟩
theorem agsNo_good : GoodOn (agsNoSq (α := ℝ)) 0.5 13 :=
  ⟨sellStd_anti (by norm_num) (by norm_num) (by norm_num) (by norm_num) (by norm_num) (by norm_num) (by norm_num), by norm_num,
   by simp only [agsNoSq, sellStd, lit_zero]; norm_num, by simp only [agsNoSq, sellStd, lit_zero]; norm_num⟩
theorem agsNe_good : GoodOn (agsNeSq (α := ℝ)) 0.5 13 :=
  ⟨sellStd_anti (by norm_num) (by norm_num) (by norm_num) (by norm_num) (by norm_num) (by norm_num) (by norm_num), by norm_num,
   by simp only [agsNeSq, sellStd, lit_zero]; norm_num, by simp only [agsNeSq, sellStd, lit_zero]; norm_num⟩

theorem ktpNy_good : GoodOn (ktpNySq (α := ℝ)) 0.35 3.5 := by
  refine ⟨?_, by norm_num, ?_, ?_⟩
  · intro l hl l' hl' hll'
    have m12 : (1.2 : ℝ) ∈ Icc (0.35 : ℝ) 3.5 := ⟨by norm_num, by norm_num⟩
    simp only [ktpNySq]
    by_cases h1 : l' < 1.2
    · rw [if_pos h1, if_pos (lt_trans hll' h1)]
      exact ktpNyLo_good.anti hl hl' hll'
    · rw [if_neg h1]
      by_cases h2 : l < 1.2
      · -- across the switch the formula jumps downwards (`a3`), so the order is kept
        rw [if_pos h2]
        have a1 : ktpNySqHi l' ≤ ktpNySqHi (1.2 : ℝ) :=
          ktpNyHi_good.anti.antitoneOn m12 hl' (not_lt.mp h1)
        have a2 : ktpNySqLo (1.2 : ℝ) < ktpNySqLo l := ktpNyLo_good.anti hl m12 h2
        have a3 : ktpNySqHi (1.2 : ℝ) < ktpNySqLo (1.2 : ℝ) := by
          simp only [ktpNySqHi, ktpNySqLo, sellB, sqr]; norm_num
        linarith
      · rw [if_neg h2]
        exact ktpNyHi_good.anti hl hl' hll'
  · simp only [ktpNySq]; rw [if_neg (by norm_num)]; exact ktpNyHi_good.lo
  · simp only [ktpNySq]; rw [if_pos (by norm_num)]; exact ktpNyLo_good.hi

/-- `gayerF Tmin`, the lower end of the range of the Gayer temperature variable over −50 … 200 °C
(`gayerF` increases on it: `gayerF_mem`) -/
noncomputable def Flo : ℝ := -38801.09
/-- `gayerF Tmax`, the upper end of that range -/
noncomputable def Fhi : ℝ := 135278.91

theorem gayerF_mem {T : ℝ} (h1 : Tmin ≤ T) (h2 : T ≤ Tmax) : Flo ≤ gayerF T ∧ gayerF T ≤ Fhi := by
  simp only [gayerF, celsius, lit_two, Tmin, Tmax, Flo, Fhi] at *
  -- `gayerF` increases on the range: `gayerF T − gayerF T₀ = (T − T₀)(T + T₀ + 0.02)`
  constructor <;> nlinarith

theorem affine_mono {a b x y : ℝ} (hb : 0 ≤ b) (h : x ≤ y) : a + b * x ≤ a + b * y :=
  add_le_add_right (mul_le_mul_of_nonneg_left h hb) a

theorem affine_anti {a b x y : ℝ} (hb : b ≤ 0) (h : x ≤ y) : a + b * y ≤ a + b * x :=
  add_le_add_right (mul_le_mul_of_nonpos_left h hb) a

section split
variable {α : Type} [Add α] [Sub α] [Mul α] [Div α] [Neg α] [OfScientific α]

/-- `mgoNoSq F l` with `F` split in two: `Fu` in the Gayer coefficients through which `n_o²` rises
with `F`, `Fd` in the one through which it falls (the base of the lower pole).  `mgoNoSplit F F l` is
`mgoNoSq F l` (`mgoNoSplit_self`), which on a cell `[F0, F1] × [l0, l1]` therefore lies between `mgoNoSplit F0 F1 l1` and
`mgoNoSplit F1 F0 l0` (`mgoNoSplit_mono`). -/
def mgoNoSplit (Fu Fd l : α) : α :=
  pole2 (5.653 + 7.941e-7 * Fu) (0.1185 + 3.134e-8 * Fu) (sqr (0.2091 + (-4.641e-9) * Fd))
    (89.61 + (-2.188e-6) * Fu) (sqr 10.85) 1.97e-2 (l * l)

/-- the same for `mgoNeSq`, which falls with `F` only through the numerator of the upper pole -/
def mgoNeSplit (Fu Fd l : α) : α :=
  pole2 (5.756 + 2.86e-6 * Fu) (0.0983 + 4.7e-8 * Fu) (sqr (0.2020 + 6.113e-8 * Fu))
    (189.32 + 1.516e-4 * Fd) (sqr 12.52) 1.32e-2 (l * l)
end split

theorem mgoNoSplit_self (F l : ℝ) : mgoNoSplit F F l = mgoNoSq F l := rfl
theorem mgoNeSplit_self (F l : ℝ) : mgoNeSplit F F l = mgoNeSq F l := rfl

/-- the two Gayer numerators of `n_o` and the base of its lower pole, which stays below the window -/
theorem mgoNo_params {F : ℝ} (h1 : Flo ≤ F) (h2 : F ≤ Fhi) :
    0 < (0.1185 : ℝ) + 3.134e-8 * F ∧ 0 < (89.61 : ℝ) + (-2.188e-6) * F ∧
      0 ≤ (0.2091 : ℝ) + (-4.641e-9) * F ∧ (0.2091 : ℝ) + (-4.641e-9) * F < 0.44 := by
  simp only [Flo, Fhi] at h1 h2
  refine ⟨?_, ?_, ?_, ?_⟩ <;> linarith only [h1, h2]

theorem mgoNe_params {F : ℝ} (h1 : Flo ≤ F) (h2 : F ≤ Fhi) :
    0 < (0.0983 : ℝ) + 4.7e-8 * F ∧ 0 < (189.32 : ℝ) + 1.516e-4 * F ∧
      0 ≤ (0.2020 : ℝ) + 6.113e-8 * F ∧ (0.2020 : ℝ) + 6.113e-8 * F < 0.44 := by
  simp only [Flo, Fhi] at h1 h2
  refine ⟨?_, ?_, ?_, ?_⟩ <;> linarith only [h1, h2]

/-- in `x = λ²` the LiNb_MgO window 0.44 … 4 µm lies below the upper pole `a5²` of either Gayer
equation: `10.85²` for `n_o`, `12.52²` for `n_e` -/
theorem mgo_sq_window {l l' : ℝ} (h0 : 0.44 ≤ l) (h : l ≤ l') (h1 : l' ≤ 4) :
    l * l ≤ l' * l' ∧ l' * l' < sqr (10.85 : ℝ) ∧ l' * l' < sqr (12.52 : ℝ) := by
  have h44 : (0 : ℝ) ≤ 0.44 := by norm_num
  have h4 := mul_self_le_mul_self ((h44.trans h0).trans h) h1
  exact ⟨mul_self_le_mul_self (h44.trans h0) h, h4.trans_lt (by norm_num [sqr]),
    h4.trans_lt (by norm_num [sqr])⟩

theorem mgoNoSplit_mono {Fu Fu' Fd Fd' l l' : ℝ} (hu : Flo ≤ Fu) (huu : Fu ≤ Fu') (hu' : Fu' ≤ Fhi)
    (hd' : Flo ≤ Fd') (hdd : Fd' ≤ Fd) (hd : Fd ≤ Fhi) (hl' : 0.44 ≤ l') (hll : l' ≤ l) (hl : l ≤ 4) :
    mgoNoSplit Fu Fd l ≤ mgoNoSplit Fu' Fd' l' := by
  -- the side conditions of `pole2_mono` are `mgoNo_params` at the point where the coefficient in
  -- question is taken: `0 ≤ p` at `Fu`, `0 ≤ q` at `Fu'`, the pole base `≥ 0` (to compare the
  -- squares) at `Fd`, where it is least, and `< 0.44` at `Fd'`
  obtain ⟨p, -, -, -⟩ := mgoNo_params hu (huu.trans hu')
  obtain ⟨-, q, -, -⟩ := mgoNo_params (hu.trans huu) hu'
  obtain ⟨-, -, b0, -⟩ := mgoNo_params (hd'.trans hdd) hd
  obtain ⟨-, -, -, b⟩ := mgoNo_params hd' (hdd.trans hd)
  obtain ⟨hx, hC, -⟩ := mgo_sq_window hl' hll hl
  have hb := affine_anti (a := 0.2091) (by norm_num : (-4.641e-9 : ℝ) ≤ 0) hdd
  exact pole2_mono (hA := affine_mono (by norm_num) huu) (hp0 := p.le)
    (hp := affine_mono (by norm_num) huu) (hc := mul_self_le_mul_self b0 hb)
    (hcx := mul_self_lt_mul_self (b0.trans hb) (b.trans_le hl')) (hq0 := q.le)
    (hq := affine_anti (by norm_num) huu) (hxC := hC) (hx := hx) (hD := by norm_num)

theorem mgoNeSplit_mono {Fu Fu' Fd Fd' l l' : ℝ} (hu : Flo ≤ Fu) (huu : Fu ≤ Fu') (hu' : Fu' ≤ Fhi)
    (hd' : Flo ≤ Fd') (hdd : Fd' ≤ Fd) (hd : Fd ≤ Fhi) (hl' : 0.44 ≤ l') (hll : l' ≤ l) (hl : l ≤ 4) :
    mgoNeSplit Fu Fd l ≤ mgoNeSplit Fu' Fd' l' := by
  -- as for `mgoNoSplit_mono`, with the roles moved: the pole base rises with `Fu` (least at `Fu`, `< 0.44` at
  -- `Fu'`), and `q` is the one coefficient in `Fd` (`0 ≤ q` at `Fd'`)
  obtain ⟨p, -, b0, -⟩ := mgoNe_params hu (huu.trans hu')
  obtain ⟨-, -, -, b⟩ := mgoNe_params (hu.trans huu) hu'
  obtain ⟨-, q, -, -⟩ := mgoNe_params hd' (hdd.trans hd)
  obtain ⟨hx, -, hC⟩ := mgo_sq_window hl' hll hl
  have hb := affine_mono (a := 0.2020) (by norm_num : (0 : ℝ) ≤ 6.113e-8) huu
  exact pole2_mono (hA := affine_mono (by norm_num) huu) (hp0 := p.le)
    (hp := affine_mono (by norm_num) huu) (hc := mul_self_le_mul_self b0 hb)
    (hcx := mul_self_lt_mul_self (b0.trans hb) (b.trans_le hl')) (hq0 := q.le)
    (hq := affine_mono (by norm_num) hdd) (hxC := hC) (hx := hx) (hD := by norm_num)

theorem mgoNo_good {F : ℝ} (h1 : Flo ≤ F) (h2 : F ≤ Fhi) : GoodOn (mgoNoSq (α := ℝ) F) 0.44 4 := by
  obtain ⟨p, q, b0, b⟩ := mgoNo_params h1 h2
  refine ⟨sellG_anti p q (by norm_num) (by norm_num) (mul_self_lt_mul_self b0 b)
      (by norm_num [sqr]), by norm_num, ?_, ?_⟩
  · rw [← mgoNoSplit_self]
    refine lt_of_lt_of_le ?_ (mgoNoSplit_mono le_rfl h1 h2 h1 h2 le_rfl (by norm_num) le_rfl le_rfl)
    simp only [mgoNoSplit, pole2, Flo, Fhi, sqr]; norm_num
  · rw [← mgoNoSplit_self]
    refine lt_of_le_of_lt (mgoNoSplit_mono h1 h2 le_rfl le_rfl h1 h2 le_rfl le_rfl (by norm_num)) ?_
    simp only [mgoNoSplit, pole2, Flo, Fhi, sqr]; norm_num

theorem mgoNe_good {F : ℝ} (h1 : Flo ≤ F) (h2 : F ≤ Fhi) : GoodOn (mgoNeSq (α := ℝ) F) 0.44 4 := by
  obtain ⟨p, q, b0, b⟩ := mgoNe_params h1 h2
  refine ⟨sellG_anti p q (by norm_num) (by norm_num) (mul_self_lt_mul_self b0 b)
      (by norm_num [sqr]), by norm_num, ?_, ?_⟩
  · rw [← mgoNeSplit_self]
    refine lt_of_lt_of_le ?_ (mgoNeSplit_mono le_rfl h1 h2 h1 h2 le_rfl (by norm_num) le_rfl le_rfl)
    simp only [mgoNeSplit, pole2, Flo, Fhi, sqr]; norm_num
  · rw [← mgoNeSplit_self]
    refine lt_of_le_of_lt (mgoNeSplit_mono h1 h2 le_rfl le_rfl h1 h2 le_rfl le_rfl (by norm_num)) ?_
    simp only [mgoNeSplit, pole2, Flo, Fhi, sqr]; norm_num

/-- component `0`, `1`, `2` = `x`, `y`, `z` of a vector, so that an axis can be a variable -/
def comp {α : Type} : Fin 3 → Vec3 α → α
  | 0, v => v.x
  | 1, v => v.y
  | 2, v => v.z

theorem nSq_good (c : Crystal) {T : ℝ} (h1 : Tmin ≤ T) (h2 : T ≤ Tmax) (i : Fin 3) :
    GoodOn (fun l => comp i (nSq c l T)) (lLo c) (lHi c) := by
  have hF := gayerF_mem h1 h2
  cases c <;> fin_cases i <;> simp only [comp, nSq, lLo, lHi]
  · exact bboNo_good
  · exact bboNo_good
  · exact bboNe_good
  · exact ktpNx_good
  · exact ktpNy_good
  · exact ktpNz_good
  · exact biboNx_good
  · exact biboNy_good
  · exact biboNz_good
  · exact lnNo_good
  · exact lnNo_good
  · exact lnNe_good
  · exact mgoNo_good hF.1 hF.2
  · exact mgoNo_good hF.1 hF.2
  · exact mgoNe_good hF.1 hF.2
  · exact kdpNo_good
  · exact kdpNo_good
  · exact kdpNe_good
  · exact ags1No_good
  · exact ags1No_good
  · exact ags1Ne_good
  · exact ags2No_good
  · exact ags2No_good
  · exact ags2Ne_good
  · exact lio2No_good
  · exact lio2No_good
  · exact lio2Ne_good
  · exact lio1No_good
  · exact lio1No_good
  · exact lio1Ne_good
  · exact agsNo_good
  · exact agsNo_good
  · exact agsNe_good

/-- thermo-optic coefficient `dn/dT` of component `i`; `0` where the code has no linear term -/
noncomputable def slope (c : Crystal) (i : Fin 3) : ℝ :=
  match dn (α := ℝ) c with
  | none => 0
  | some d => comp i d

theorem indices_eq (c : Crystal) (lam T : ℝ) :
    indices c lam T =
      ⟨Real.sqrt (nSq c (microns lam) T).x + tempOffset T * slope c 0,
       Real.sqrt (nSq c (microns lam) T).y + tempOffset T * slope c 1,
       Real.sqrt (nSq c (microns lam) T).z + tempOffset T * slope c 2⟩ := by
  simp only [indices, slope, Transc.sqrt]
  cases dn (α := ℝ) c <;> simp [comp]

theorem indices_comp (c : Crystal) (lam T : ℝ) (i : Fin 3) :
    comp i (indices c lam T) =
      Real.sqrt (comp i (nSq c (microns lam) T)) + tempOffset T * slope c i := by
  rw [indices_eq]; fin_cases i <;> rfl

theorem tempOffset_eq (T : ℝ) : tempOffset T = T - Tref := by norm_num [tempOffset, Tref]

theorem nSq_temp {c : Crystal} (hc : c ≠ .LiNb_MgO) (l T T' : ℝ) : nSq c l T = nSq c l T' := by
  cases c <;> first | rfl | exact absurd rfl hc

/-- the largest coefficient of `dn` is `1.55e-4` (AgGaS₂, `n_e`); `1.6e-4` still gives
`180 · 1.6e-4 < 0.03` in `indices_comp_bounds` -/
theorem slope_abs (c : Crystal) (i : Fin 3) : |slope c i| ≤ 1.6e-4 := by
  cases c <;> fin_cases i <;> simp only [slope, dn, comp] <;> norm_num [abs_le]

/-- −50 … 200 °C is at most 180 K away from the reference 20 °C -/
theorem tempOffset_abs {T : ℝ} (h1 : Tmin ≤ T) (h2 : T ≤ Tmax) : |tempOffset T| ≤ 180 := by
  simp only [Tmin, Tmax] at h1 h2
  rw [tempOffset_eq, Tref, abs_le]
  constructor <;> linarith only [h1, h2]

theorem thermal_small {T s ε : ℝ} (h1 : Tmin ≤ T) (h2 : T ≤ Tmax) (hs : 180 * |s| ≤ ε) :
    |tempOffset T * s| ≤ ε := by
  rw [abs_mul]
  exact (mul_le_mul_of_nonneg_right (tempOffset_abs h1 h2) (abs_nonneg s)).trans hs

theorem microns_mem {c : Crystal} {lam : ℝ} (h1 : windowLo c ≤ lam) (h2 : lam ≤ windowHi c) :
    microns lam ∈ Icc (lLo c) (lHi c) := by
  rw [← microns_windowLo, ← microns_windowHi]
  exact ⟨microns_strictMono.monotone h1, microns_strictMono.monotone h2⟩

theorem indices_comp_anti (c : Crystal) {T : ℝ} (hT1 : Tmin ≤ T) (hT2 : T ≤ Tmax) {lam1 lam2 : ℝ}
    (h1 : windowLo c ≤ lam1) (h12 : lam1 < lam2) (h2 : lam2 ≤ windowHi c) (i : Fin 3) :
    comp i (indices c lam2 T) < comp i (indices c lam1 T) := by
  rw [indices_comp, indices_comp]
  exact add_lt_add_left ((nSq_good c hT1 hT2 i).sqrt_anti (microns_mem h1 (h12.le.trans h2))
    (microns_mem (h1.trans h12.le) h2) (microns_strictMono h12)) _

theorem indices_comp_bounds (c : Crystal) {T : ℝ} (hT1 : Tmin ≤ T) (hT2 : T ≤ Tmax) {lam : ℝ}
    (h1 : windowLo c ≤ lam) (h2 : lam ≤ windowHi c) (i : Fin 3) :
    1 < comp i (indices c lam T) ∧ comp i (indices c lam T) < 4 := by
  rw [indices_comp]
  have hb := (nSq_good c hT1 hT2 i).sqrt_bounds (microns_mem h1 h2)
  have hs : 180 * |slope c i| ≤ 0.03 :=
    (mul_le_mul_of_nonneg_left (slope_abs c i) (by norm_num)).trans (by norm_num)
  have ht := abs_le.1 (thermal_small hT1 hT2 hs)
  exact ⟨by linarith only [hb.1, ht.1], by linarith only [hb.2, ht.2]⟩

end Spdc.Crystals
