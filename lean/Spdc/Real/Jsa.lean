import Spdc.Model.Jsa
import Spdc.Real.PM
import Spdc.Real.PMType
import Mathlib.Analysis.SpecialFunctions.Exp
import Mathlib.Analysis.SpecialFunctions.Log.Basic
/-!
The joint spectrum over ℝ (C06, C07, and the composed model): the literal zeros of `jsaRaw` / `jsa` / `jsi` off
the support; exchange of signal and idler; scaling the pump power by `a` and `deff` by `b` (only `NormIn` sees
it, so the intensities scale by `a·b²` and the amplitudes by `√a·|b|`); the same two operations on the count
sum (`countsSum_perm_swap`: a grid that is the transposed one up to order, `countsSum_smul`); the pump envelope at
half maximum.
-/
namespace Spdc.PM

theorem invalidFrequencies_iff (ωs ωi ωp : ℝ) :
    invalidFrequencies ωs ωi ωp = true ↔
      ωs ≤ 0 ∨ ωi ≤ 0 ∨ ωp < ωs ∨ ωp < ωi ∨ 3 / 4 * ωp < |ωs - ωi| := by
  simp only [invalidFrequencies, Bool.or_eq_true, decide_eq_true_eq, lit_zero, lit_075, Transc.abs,
    or_assoc]

theorem invalidFrequencies_comm (ωs ωi ωp : ℝ) :
    invalidFrequencies ωi ωs ωp = invalidFrequencies ωs ωi ωp := by
  rw [Bool.eq_iff_iff, invalidFrequencies_iff, invalidFrequencies_iff, abs_sub_comm]
  exact or_left_comm.trans (or_congr_right (or_congr_right or_left_comm))

/-- the shape of the support test that `jsa_raw` and `jsi_singles_raw` share -/
theorem ite_off_support {β : Type} {b : Bool} {p : Prop} [Decidable p] (z x : β)
    (h : b = true ∨ p) : (if b then z else if p then z else x) = z := by
  rcases h with h | h
  · rw [if_pos h]
  · rw [if_pos h, ite_self]

theorem isZero_iff (x : ℝ) : PM.isZero x = true ↔ x = 0 := by
  simp only [PM.isZero, lit_zero, Bool.and_eq_true, decide_eq_true_eq]
  exact ⟨fun h => le_antisymm h.1 h.2, fun h => ⟨h.le, h.ge⟩⟩

theorem cxIsZero_iff (r : Cx ℝ) : PM.Cx.isZero r = true ↔ r = Cx.zero := by
  obtain ⟨x, y⟩ := r
  simp only [PM.Cx.isZero, Bool.and_eq_true, isZero_iff, Cx.zero, lit_zero, Cx.mk.injEq]

theorem cxIsZero_zero : PM.Cx.isZero (Cx.zero : Cx ℝ) = true := (cxIsZero_iff _).mpr rfl

theorem jsaRaw_off_support (J : JSetup ℝ) (nodes : List (ℝ × ℝ)) (scale : ℝ) {ωs ωi : ℝ}
    (h : invalidFrequencies ωs ωi J.omegaP = true
      ∨ pumpSpectralAmplitude (ωs + ωi) J.omegaP J.bandwidth < J.threshold) :
    jsaRaw J nodes scale ωs ωi = Cx.zero :=
  ite_off_support _ _ h

theorem jsa_off_support (J : JSetup ℝ) (nodes : List (ℝ × ℝ)) (scale : ℝ) {ωs ωi : ℝ}
    (h : invalidFrequencies ωs ωi J.omegaP = true
      ∨ pumpSpectralAmplitude (ωs + ωi) J.omegaP J.bandwidth < J.threshold) :
    jsa J nodes scale ωs ωi = Cx.zero := by
  rw [jsa, jsaRaw_off_support J nodes scale h, jsaOfRaw, if_pos cxIsZero_zero]

theorem jsi_off_support (J : JSetup ℝ) (nodes : List (ℝ × ℝ)) (scale : ℝ) {ωs ωi : ℝ}
    (h : invalidFrequencies ωs ωi J.omegaP = true
      ∨ pumpSpectralAmplitude (ωs + ωi) J.omegaP J.bandwidth < J.threshold) :
    jsi J nodes scale ωs ωi = 0 := by
  rw [jsi, jsaRaw_off_support J nodes scale h, jsiOfRaw, if_pos cxIsZero_zero, lit_zero]

theorem Setup.swap_swap (S : Setup ℝ) : S.swap.swap = S := by
  cases S; simp [Setup.swap, PMType.inverse_inverse]

theorem JSetup.swap_swap (J : JSetup ℝ) : J.swap.swap = J := by
  cases J; simp [JSetup.swap, Setup.swap_swap]

@[simp] theorem JSetup.swap_toSetup (J : JSetup ℝ) : J.swap.toSetup = J.toSetup.swap := rfl

theorem commonNorm_comm (N : NormIn ℝ) (ωs ωi ns ni : ℝ) :
    commonNorm N ωi ωs ni ns = commonNorm N ωs ωi ns ni := by
  simp only [commonNorm]
  rw [mul_comm ωi ωs, mul_comm ni ns]

theorem jsiNormalization_swap (N : NormIn ℝ) (s i : Beam ℝ) (ωs ωi : ℝ) :
    jsiNormalization N i s ωi ωs = jsiNormalization N s i ωs ωi := by
  unfold jsiNormalization
  rw [commonNorm_comm]
  ring

theorem countsSum_eq (corr dw2 : ℝ) (grid : List (ℝ × ℝ)) (f : ℝ → ℝ → ℝ) :
    countsSum corr dw2 grid f = corr * (grid.map fun p => f p.1 p.2 * dw2).sum := by
  unfold countsSum; rw [sumList_eq]

theorem countsSum_perm_swap (corr dw2 : ℝ) {grid grid' : List (ℝ × ℝ)}
    (hperm : grid'.Perm (grid.map Prod.swap)) {f f' : ℝ → ℝ → ℝ}
    (h : ∀ q ∈ grid, f' q.2 q.1 = f q.1 q.2) :
    countsSum corr dw2 grid' f' = countsSum corr dw2 grid f := by
  rw [countsSum_eq, countsSum_eq, (hperm.map _).sum_eq, List.map_map]
  exact congrArg (corr * List.sum ·) (List.map_congr_left fun q hq => congrArg (· * dw2) (h q hq))

theorem countsSum_smul (corr dw2 : ℝ) (grid : List (ℝ × ℝ)) {c : ℝ} {f g : ℝ → ℝ → ℝ}
    (h : ∀ x y, g x y = c * f x y) :
    countsSum corr dw2 grid g = c * countsSum corr dw2 grid f := by
  rw [countsSum_eq, countsSum_eq, mul_left_comm c corr, ← List.sum_map_mul_left _ _ c]
  exact congrArg (corr * List.sum ·) (List.map_congr_left fun p _ => by rw [h, mul_assoc])

theorem commonNorm_scaled (J : JSetup ℝ) (a b ωs ωi ns ni : ℝ) :
    commonNorm (J.scaled a b).normIn ωs ωi ns ni = a * b ^ 2 * commonNorm J.normIn ωs ωi ns ni := by
  simp only [commonNorm, NormIn.sigma, JSetup.scaled, JSetup.normIn]
  ring

theorem jsiNormalization_scaled (J : JSetup ℝ) (a b : ℝ) (s i : Beam ℝ) (ωs ωi : ℝ) :
    jsiNormalization (J.scaled a b).normIn s i ωs ωi
      = a * b ^ 2 * jsiNormalization J.normIn s i ωs ωi := by
  unfold jsiNormalization
  rw [commonNorm_scaled]
  ring

theorem jsiSinglesNormalization_scaled (J : JSetup ℝ) (a b : ℝ) (s i : Beam ℝ) (ωs ωi : ℝ) :
    jsiSinglesNormalization (J.scaled a b).normIn s i ωs ωi
      = a * b ^ 2 * jsiSinglesNormalization J.normIn s i ωs ωi := by
  unfold jsiSinglesNormalization
  rw [commonNorm_scaled]
  ring

theorem jsaRaw_scaled (J : JSetup ℝ) (a b : ℝ) (nodes : List (ℝ × ℝ)) (scale ωs ωi : ℝ) :
    jsaRaw (J.scaled a b) nodes scale ωs ωi = jsaRaw J nodes scale ωs ωi := rfl

theorem jsiSinglesRaw_scaled (sr : Setup ℝ → ℝ → ℝ → ℝ) (J : JSetup ℝ) (a b ωs ωi : ℝ) :
    jsiSinglesRaw sr (J.scaled a b) ωs ωi = jsiSinglesRaw sr J ωs ωi := rfl

theorem jsiOfRaw_eq (J : JSetup ℝ) (ωs ωi : ℝ) (r : Cx ℝ) :
    jsiOfRaw J ωs ωi r = jsiNormalization J.normIn J.sig J.idl ωs ωi * r.normSq :=
  ite_zero_guard fun h => by
    rw [(cxIsZero_iff r).mp h]
    simp [Cx.zero, Cx.normSq, lit_zero]

theorem jsiSingles_eq (sr : Setup ℝ → ℝ → ℝ → ℝ) (J : JSetup ℝ) (ωs ωi : ℝ) :
    jsiSingles sr J ωs ωi
      = jsiSinglesNormalization J.normIn J.sig J.idl ωs ωi * jsiSinglesRaw sr J ωs ωi :=
  ite_zero_guard fun h => by rw [(isZero_iff _).mp h, mul_zero]

theorem jsiOfRaw_scaled (J : JSetup ℝ) (a b ωs ωi : ℝ) (r : Cx ℝ) :
    jsiOfRaw (J.scaled a b) ωs ωi r = a * b ^ 2 * jsiOfRaw J ωs ωi r := by
  rw [jsiOfRaw_eq, jsiOfRaw_eq, ← mul_assoc]
  exact congrArg (· * r.normSq) (jsiNormalization_scaled J a b J.sig J.idl ωs ωi)

theorem jsiSingles_scaled (sr : Setup ℝ → ℝ → ℝ → ℝ) (J : JSetup ℝ) (a b ωs ωi : ℝ) :
    jsiSingles sr (J.scaled a b) ωs ωi = a * b ^ 2 * jsiSingles sr J ωs ωi := by
  rw [jsiSingles_eq, jsiSingles_eq, jsiSinglesRaw_scaled, ← mul_assoc]
  exact congrArg (· * jsiSinglesRaw sr J ωs ωi) (jsiSinglesNormalization_scaled J a b J.sig J.idl ωs ωi)

theorem sqrt_scaled (a b n : ℝ) (ha : 0 ≤ a) :
    Real.sqrt (a * b ^ 2 * n) = Real.sqrt a * |b| * Real.sqrt n := by
  rw [mul_assoc, Real.sqrt_mul ha, Real.sqrt_mul (sq_nonneg b), Real.sqrt_sq_eq_abs]; ring

theorem jsaOfRaw_scaled (J : JSetup ℝ) (a b : ℝ) (ha : 0 ≤ a) (ωs ωi : ℝ) (r : Cx ℝ) :
    jsaOfRaw (J.scaled a b) ωs ωi r = Cx.smul (Real.sqrt a * |b|) (jsaOfRaw J ωs ωi r) := by
  unfold jsaOfRaw
  split
  · rw [Cx.smul_zero']
  · rw [← Cx.smul_smul']
    exact congrArg (Cx.smul · r) ((congrArg Real.sqrt
      (jsiNormalization_scaled J a b J.sig J.idl ωs ωi)).trans (sqrt_scaled a b _ ha))

theorem jsaCenter_scaled (Jo : JSetup ℝ) (a b : ℝ) (ha : 0 ≤ a) (nodes : List (ℝ × ℝ)) (scale : ℝ) :
    jsaCenter (Jo.scaled a b) nodes scale = Real.sqrt a * |b| * jsaCenter Jo nodes scale := by
  show Real.sqrt (jsiNormalization (Jo.scaled a b).normIn Jo.sig Jo.idl Jo.sig.freq Jo.idl.freq) * _
    = _ * (Real.sqrt _ * _)
  rw [jsiNormalization_scaled, sqrt_scaled a b _ ha, mul_assoc]
  rfl

theorem jsiSinglesCenter_scaled (sr : Setup ℝ → ℝ → ℝ → ℝ) (Jo : JSetup ℝ) (a b : ℝ) :
    jsiSinglesCenter sr (Jo.scaled a b) = a * b ^ 2 * jsiSinglesCenter sr Jo := by
  show jsiSinglesNormalization (Jo.scaled a b).normIn Jo.sig Jo.idl Jo.sig.freq Jo.idl.freq * _
    = _ * (_ * _)
  rw [jsiSinglesNormalization_scaled, mul_assoc]
  rfl

theorem jsa_samples_scaled (J : JSetup ℝ) (a b : ℝ) (ha : 0 < a) (hb : b ≠ 0)
    (nodes : List (ℝ × ℝ)) (scale : ℝ) (grid : List (ℝ × ℝ)) :
    ∃ c : ℝ, c ≠ 0 ∧ (grid.map fun p => (jsa (J.scaled a b) nodes scale p.1 p.2).toC)
      = (grid.map fun p => (jsa J nodes scale p.1 p.2).toC).map fun z => (c : ℂ) * z :=
  ⟨Real.sqrt a * |b|, (mul_pos (Real.sqrt_pos.mpr ha) (abs_pos.mpr hb)).ne', by
    rw [List.map_map]
    exact List.map_congr_left fun p _ => by
      simp only [Function.comp, jsa, jsaOfRaw_scaled J a b ha.le, jsaRaw_scaled, Cx.toC_smul]⟩

theorem fwhmOverWaist_sq : (fwhmOverWaist : ℝ) * fwhmOverWaist = 2 * Real.log 2 := by
  simp only [fwhmOverWaist, Transc.sqrt, Transc.ln, lit_two]
  exact Real.mul_self_sqrt (by positivity)

theorem fwhmOverWaist_pos : (0 : ℝ) < fwhmOverWaist := by
  simp only [fwhmOverWaist, Transc.sqrt, Transc.ln, lit_two]
  exact Real.sqrt_pos.mpr (by positivity)

/-- `hd`: `d² = (Δ/2)²`, `Δ` the frequency span of the wavelength FWHM; there the exponent has
`x² = (√(2 ln 2)/2)² = ln 2 / 2` -/
theorem envelope_half_at_offset (ω0 fwhm d : ℝ) (hΔ : fwhmFreqSpan (freqToWavelength ω0) fwhm ≠ 0)
    (hd : d * d
      = fwhmFreqSpan (freqToWavelength ω0) fwhm * fwhmFreqSpan (freqToWavelength ω0) fwhm / 4) :
    (pumpSpectralAmplitude (ω0 + d) ω0 fwhm) ^ 2 = 1 / 2 := by
  have hx : (ω0 + d - ω0) / fwhmToSpectralWidth (freqToWavelength ω0) fwhm
      * ((ω0 + d - ω0) / fwhmToSpectralWidth (freqToWavelength ω0) fwhm) = Real.log 2 / 2 := by
    rw [fwhmToSpectralWidth, add_sub_cancel_left, div_div_eq_mul_div, div_mul_div_comm,
      mul_mul_mul_comm, hd, fwhmOverWaist_sq]
    field_simp
    norm_num
  simp only [pumpSpectralAmplitude, Transc.exp]
  rw [← Real.exp_nat_mul, neg_mul, hx, Nat.cast_ofNat, mul_neg, mul_div_cancel₀ _ two_ne_zero,
    Real.exp_neg, Real.exp_log two_pos, one_div]

theorem twoPi_cLight_pos : (0 : ℝ) < twoPi * cLight := by
  simp only [twoPi, cLight, Transc.pi, lit_two, lit_cLight]
  positivity

theorem fwhmFreqSpan_pos (lamP fwhm : ℝ) (hf : 0 < fwhm) (hl : fwhm < 2 * lamP) :
    0 < fwhmFreqSpan lamP fwhm := by
  simp only [fwhmFreqSpan, wavelengthToFreq, lit_half]
  exact sub_pos.mpr (div_lt_div_of_pos_left twoPi_cLight_pos (by linarith) (by linarith))

end Spdc.PM
