import Spdc.Model.Auto
import Spdc.Real.DeltaK
import Spdc.Real.NM1D
/-!
`optimum_poling_period` over ℝ (`Model/Auto.lean`, C04): for `z ≠ 0` it is the optimiser's result filtered
by the bounds, so an `Ok(Λ)` tells where `Λ` comes from; the collinear cost in closed form.
-/
namespace Spdc.Auto
open Spdc.NM1D Spdc.DeltaK Real

-- the literal `2.2250738585072014e-308` is `22250738585072014 / 10^324`, beyond the default
-- threshold (256) up to which `norm_num` evaluates a power
set_option exponentiation.threshold 400 in
theorem minPositive_pos : (0 : ℝ) < minPositive := by
  unfold minPositive; norm_num

set_option exponentiation.threshold 400 in
theorem minPositive_le_micro : (minPositive : ℝ) ≤ 1e-6 := by
  unfold minPositive; norm_num

theorem optimumPolingPeriod_of_ne {z : ℝ} (hz : z ≠ 0) (cost : Bool → ℝ → Cost ℝ) (L : ℝ) :
    optimumPolingPeriod z cost L =
      (NM1D.run (cost (computeSign z)) |2 * π / z| (|2 * π / z| + 1e-6) 1000 minPositive L 1e-12).bind
        fun period =>
          if L * (1 - 1e-9) ≤ period ∨ L < period ∨ period < minPositive then
            .err "Could not determine poling period from specified values"
          else .ok (Period.finite (signMul (computeSign z) period)) := by
  have h : ¬ (¬ (z < 0) ∧ ¬ (0 < z)) := fun h => hz (le_antisymm (not_lt.mp h.2) (not_lt.mp h.1))
  simp only [optimumPolingPeriod, lit_zero, lit_one, h, if_false, twoPi_eq, tabs]
  cases NM1D.run (cost (computeSign z)) |2 * π / z| (|2 * π / z| + 1e-6) 1000 minPositive L 1e-12 <;> rfl

theorem optimumPolingPeriod_ok {z : ℝ} {cost : Bool → ℝ → Cost ℝ} {L v : ℝ}
    (h : optimumPolingPeriod z cost L = .ok (Period.finite v)) :
    z ≠ 0 ∧ ∃ p, NM1D.run (cost (computeSign z)) |2 * π / z| (|2 * π / z| + 1e-6) 1000
        minPositive L 1e-12 = .ok p ∧ minPositive ≤ p ∧ p ≤ L ∧ p < L * (1 - 1e-9) ∧
        v = signMul (computeSign z) p := by
  by_cases hz : z = 0
  · subst hz
    simp [optimumPolingPeriod, lit_zero] at h
  · rw [optimumPolingPeriod_of_ne hz] at h
    obtain ⟨p, hr, hp⟩ := Outcome.bind_eq_ok.mp h
    split_ifs at hp with hc
    rw [not_or, not_or, not_le, not_lt, not_lt] at hc
    cases hp
    exact ⟨hz, p, hr, hc.2.2, hc.2.1, hc.1, rfl⟩

theorem signMul_computeSign (z p : ℝ) : signMul (computeSign z) p = if z < 0 then -p else p := by
  simp [signMul_eq, computeSign, lit_zero]

theorem collinearCost_eq {z p : ℝ} (neg : Bool) (hp : 0 < p) :
    collinearCost z neg p = .fin |z - 2 * π / signMul neg p| := by
  simp [collinearCost, kEff_on neg hp, tabs]

end Spdc.Auto
