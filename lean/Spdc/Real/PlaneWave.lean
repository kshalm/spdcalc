import Spdc.Real.PM
import Mathlib.Analysis.SpecialFunctions.Integrals.Basic
import Mathlib.Analysis.SpecialFunctions.Trigonometric.Sinc
/-!
Collinear / plane-wave reductions of the coincidence integrand (C05): two integrals over `[-1, 1]`; the
coefficients `A1 … A10` of collinear beams without diffraction as one structure equation; the exponent `expo`
on coefficients of that form.
-/
namespace Spdc.PM

theorem half_integral_exp (t : ℝ) :
    ‖(1 / 2 : ℂ) * ∫ z in (-1:ℝ)..1, Complex.exp (Complex.I * t * z)‖ = |Real.sinc t| := by
  by_cases ht : t = 0
  · subst ht
    norm_num
  · have hc : (t : ℂ) ≠ 0 := Complex.ofReal_ne_zero.mpr ht
    -- with `u = t·z` the integral is Mathlib's `∫ u in -t..t, exp (u·I) = 2·t·sinc t`
    simp_rw [show ∀ z : ℝ, Complex.I * t * z = ((t * z : ℝ) : ℂ) * Complex.I from fun z => by
      push_cast; ring]
    rw [intervalIntegral.integral_comp_mul_left (fun u : ℝ => Complex.exp (u * Complex.I)) ht,
      mul_neg, mul_one, integral_exp_mul_I_eq_sinc, Complex.real_smul,
      show (1 / 2 : ℂ) * (((t⁻¹ : ℝ) : ℂ) * (2 * t * Real.sinc t)) = (Real.sinc t : ℂ) by
        push_cast; field_simp,
      Complex.norm_real, Real.norm_eq_abs]

/-- by the substitution `u = x′(1+z)` -/
theorem walkoff_integral (xp : ℝ) (hx : xp ≠ 0) :
    1 / 2 * ∫ z in (-1:ℝ)..1, Real.exp (-(xp ^ 2 * (1 + z) ^ 2))
      = 1 / (2 * xp) * ∫ u in (0:ℝ)..(2 * xp), Real.exp (-(u ^ 2)) := by
  have key := intervalIntegral.integral_comp_mul_add (a := (-1:ℝ)) (b := 1)
    (fun u : ℝ => Real.exp (-(u ^ 2))) hx xp
  have h1 : (fun z : ℝ => Real.exp (-(xp ^ 2 * (1 + z) ^ 2)))
      = fun z : ℝ => (fun u : ℝ => Real.exp (-(u ^ 2))) (xp * z + xp) := by
    funext z; simp only; congr 1; ring
  rw [h1, key]
  simp only [smul_eq_mul]
  rw [show xp * (-1) + xp = 0 by ring, show xp * 1 + xp = 2 * xp by ring]
  field_simp

/-- a collected beam along the pump axis -/
structure Beam.Collinear (b : Beam ℝ) : Prop where
  theta : b.theta = 0
  thetaE : b.thetaE = 0

/-- `Ws_SQ` / `Wi_SQ` of `coincidences.rs` (`waist().x_by_y()`): the product of the two waists -/
def Beam.w2 (b : Beam ℝ) : ℝ := b.wx * b.wy

/-- the free-space propagation constant `ks_f = |k_s|/n_s` of a beam at `ω` -/
noncomputable def Beam.kf (b : Beam ℝ) (L ω : ℝ) : ℝ := |(chain b L ω).k| / b.n ω

theorem chain_collinear (b : Beam ℝ) (h : b.Collinear) (L ω : ℝ) :
    (chain b L ω).gam1 = -(b.w2 / 4) ∧ (chain b L ω).gam2 = -(b.w2 / 4) ∧ (chain b L ω).gam3 = 0
      ∧ (chain b L ω).gam4 = 0 ∧ (chain b L ω).del3 = 0
      ∧ (chain b L ω).del4 = -(b.kf L ω * b.z0) := by
  simp only [chain, h.theta, h.thetaE, Transc.cos, Transc.sin, Transc.tan, Transc.abs, powiNeg2,
    Real.cos_zero, Real.sin_zero, Real.tan_zero, Beam.w2, Beam.kf, lit_one, lit_two, lit_quarter, lit_half]
  refine ⟨by ring, by ring, by ring, by ring, by ring, by ring⟩

structure Setup.Collinear (S : Setup ℝ) : Prop where
  sig : S.sig.Collinear
  idl : S.idl.Collinear

/-- `Σ = Wp²Ws² + Wp²Wi² + Ws²Wi²` with the pump's x waist (`Wx_SQ`): `4·denom1` of collinear beams -/
noncomputable def Setup.sigmaX (S : Setup ℝ) : ℝ :=
  S.wpx * S.wpx * S.sig.w2 + S.wpx * S.wpx * S.idl.w2 + S.sig.w2 * S.idl.w2
/-- the same with the pump's y waist (`Wy_SQ`): `4·denom2` -/
noncomputable def Setup.sigmaY (S : Setup ℝ) : ℝ :=
  S.wpy * S.wpy * S.sig.w2 + S.wpy * S.wpy * S.idl.w2 + S.sig.w2 * S.idl.w2
/-- the waist-position phase -/
noncomputable def Setup.phi0 (S : Setup ℝ) (ωs ωi : ℝ) : ℝ :=
  S.sig.kf S.L ωs * S.sig.z0 + S.idl.kf S.L ωi * S.idl.z0
/-- `n = ½·L·tan ρ` of `get_pm_integrand` (`ρ` the pump's walk-off angle): `A6 = i·n·(1 + z)` -/
noncomputable def Setup.nn (S : Setup ℝ) : ℝ := 1 / 2 * S.L * Real.tan S.rho
/-- `x′² = n²(Ws² + Wi²)/Σ`: what the walk-off term `A6` leaves in the exponent of collinear beams, `−x′²(1 + z)²` -/
noncomputable def Setup.xp2 (S : Setup ℝ) : ℝ := S.nn ^ 2 * (S.sig.w2 + S.idl.w2) / S.sigmaY

@[simp] theorem cx_add_re (z w : Cx ℝ) : (z + w).re = z.re + w.re := rfl
@[simp] theorem cx_add_im (z w : Cx ℝ) : (z + w).im = z.im + w.im := rfl
@[simp] theorem cx_sub_re (z w : Cx ℝ) : (z - w).re = z.re - w.re := rfl
@[simp] theorem cx_sub_im (z w : Cx ℝ) : (z - w).im = z.im - w.im := rfl

/-- `A5`, `A7` are the tilt terms, `A6` the walk-off, `A10` the phase -/
theorem ideal_coef_collinear (S : Setup ℝ) (h : S.Collinear) (ωs ωi z : ℝ) :
    (coef S ωs ωi z).ideal =
      { a1 := Cx.ofReal (-((S.wpx * S.wpx + S.sig.w2) / 4))
        a2 := Cx.ofReal (-((S.wpy * S.wpy + S.sig.w2) / 4))
        a3 := Cx.ofReal (-((S.wpx * S.wpx + S.idl.w2) / 4))
        a4 := Cx.ofReal (-((S.wpy * S.wpy + S.idl.w2) / 4))
        a5 := Cx.ofReal 0
        a6 := Cx.ofImag (S.nn * (1 + z))
        a7 := Cx.ofReal 0
        a8 := Cx.ofReal (-(S.wpx * S.wpx / 2))
        a9 := Cx.ofReal (-(S.wpy * S.wpy / 2))
        a10 := Cx.ofImag (S.phi0 ωs ωi + (pre S ωs ωi).ee + (pre S ωs ωi).ff * z) } := by
  obtain ⟨g1s, g2s, g3s, g4s, d3s, d4s⟩ := chain_collinear S.sig h.sig S.L ωs
  obtain ⟨g1i, g2i, g3i, g4i, d3i, d4i⟩ := chain_collinear S.idl h.idl S.L ωi
  simp only [coef, Coef.ideal, Pre.coef, Cx.ofReal, Cx.ofImag, cx_sub_re, Cx.add_mk, pre,
    g1s, g2s, g3s, g4s, d3s, d4s, g1i, g2i, g3i, g4i, d3i, d4i, Setup.nn, Setup.phi0,
    Beam.kf, Transc.tan, z0p, lit_zero, lit_quarter, lit_half, lit_one]
  congr 1 <;> congr 1 <;> ring

/-- `P = Wp²`, `s = Ws²`, `i = Wi²`, `A6 = i·N`, `A10 = T` -/
theorem expo_collinear {A1 A3 A8 T : ℂ} {P s i N : ℝ} (ha : P + s ≠ 0)
    (hS : P * s + P * i + s * i ≠ 0) :
    expo A1 ((-((P + s) / 4) : ℝ) : ℂ) A3 ((-((P + i) / 4) : ℝ) : ℂ) ((0 : ℝ) : ℂ) ((N : ℂ) * Complex.I)
        ((0 : ℝ) : ℂ) A8 ((-(P / 2) : ℝ) : ℂ) T
      = T - ((N ^ 2 * (s + i) / (P * s + P * i + s * i) : ℝ) : ℂ) := by
  have ha' : (P : ℂ) + s ≠ 0 := by exact_mod_cast ha
  -- `Σ` as an atom, so that `field_simp` clears it as one denominator
  obtain ⟨Sg, hSg⟩ : ∃ Sg : ℂ, Sg = P * s + P * i + s * i := ⟨_, rfl⟩
  have hS' : Sg ≠ 0 := by rw [hSg]; exact_mod_cast hS
  have hd2 : 4 * -(((P : ℂ) + s) / 4) * -(((P : ℂ) + i) / 4) - -((P : ℂ) / 2) * -((P : ℂ) / 2) = Sg / 4 := by
    rw [hSg]; ring
  have hI : (N : ℂ) * Complex.I * ((N : ℂ) * Complex.I) = -((N : ℂ) * N) := by
    rw [mul_mul_mul_comm, Complex.I_mul_I]; ring
  unfold expo
  push_cast
  rw [hd2, hI, ← hSg]
  -- `A1`, `A3`, `A8` occur only in the first bracket, which vanishes with `A5 = A7 = 0`: they stay free
  simp only [mul_zero, zero_mul, add_zero, zero_div]
  field_simp
  rw [hSg]
  ring

/-- the plane-wave hypotheses of the sinc law -/
structure Setup.PlaneWave (S : Setup ℝ) : Prop where
  col : S.Collinear
  circ : S.wpx = S.wpy
  wp : 0 < S.wpy
  ws : 0 < S.sig.w2
  wi : 0 < S.idl.w2
  apod : ∀ z, S.apod z = 1

theorem Setup.PlaneWave.sigma_pos {S : Setup ℝ} (h : S.PlaneWave) : 0 < S.sigmaY := by
  have := h.wp; have := h.ws; have := h.wi
  simp only [Setup.sigmaY]; positivity

/-- `A2 = −(Wy_SQ + Ws_SQ)/4 ≠ 0` -/
theorem Setup.PlaneWave.a_ne {S : Setup ℝ} (h : S.PlaneWave) : S.wpy * S.wpy + S.sig.w2 ≠ 0 := by
  have := h.wp; have := h.ws
  positivity

theorem xp2_zero_of_rho (S : Setup ℝ) (hρ : S.rho = 0) : S.xp2 = 0 := by
  simp [Setup.xp2, Setup.nn, hρ]

end Spdc.PM
