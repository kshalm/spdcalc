import Spdc.Model.Schmidt
import Spdc.Real.GridLemmas
import Spdc.Real.Inst
import Mathlib.Analysis.Matrix.Spectrum
import Mathlib.Analysis.Matrix.PosDef
import Mathlib.Algebra.Order.Chebyshev
import Mathlib.Algebra.Order.Star.Real
import Mathlib.Tactic.FieldSimp
/-!
C11 (and the purity form of C10).  The model's Schmidt number of a flat `d × d` array is the participation ratio
`(tr M)²/tr(M²)` of `M = AᵀA`, `A` the entry-wise magnitude matrix.  `partRatio` names that ratio; everything
C11 says about the model is a fact about `partRatio`, read through `schmidt_eq`.
-/
namespace Spdc.SchmidtLemmas
open Spdc.Schmidt Matrix Finset

theorem trace_mul_self_eq_sum_sq {𝕜 : Type*} [RCLike 𝕜] {n : Type*} [Fintype n] [DecidableEq n]
    {A : Matrix n n 𝕜} (hA : A.IsHermitian) :
    (A * A).trace = ∑ i, ((hA.eigenvalues i : 𝕜)) ^ 2 := by
  conv_lhs =>
    rw [hA.spectral_theorem, ← map_mul, Unitary.conjStarAlgAut_apply, trace_mul_cycle,
      Unitary.coe_star_mul_self, Matrix.one_mul, diagonal_mul_diagonal, trace_diagonal]
  simp [sq]

/-- `(tr M)²/tr(M²)`; for Hermitian `M` with eigenvalues `λ` it is `(Σλ)²/Σλ²` -/
noncomputable def partRatio {n : ℕ} (M : Matrix (Fin n) (Fin n) ℝ) : ℝ :=
  M.trace * M.trace / (M * M).trace

section partRatio
variable {n : ℕ} {M : Matrix (Fin n) (Fin n) ℝ}

theorem partRatio_eq_eigen (hM : M.IsHermitian) :
    partRatio M = (∑ i, hM.eigenvalues i) ^ 2 / ∑ i, (hM.eigenvalues i) ^ 2 := by
  have h1 := hM.trace_eq_sum_eigenvalues
  have h2 := trace_mul_self_eq_sum_sq hM
  simp only [RCLike.ofReal_real_eq_id, id] at h1 h2
  rw [partRatio, h2, h1, sq]

theorem partRatio_smul {c : ℝ} (hc : c ≠ 0) (M : Matrix (Fin n) (Fin n) ℝ) :
    partRatio (c • M) = partRatio M := by
  simp only [partRatio, Matrix.smul_mul, Matrix.mul_smul, trace_smul, smul_eq_mul]
  rw [mul_mul_mul_comm, ← mul_assoc c c, mul_div_mul_left _ _ (mul_ne_zero hc hc)]

/-- `Σλ² ≤ (Σλ)² ≤ n·Σλ²` for non-negative eigenvalues -/
theorem partRatio_bounds (hM : M.PosSemidef) (h0 : M ≠ 0) : 1 ≤ partRatio M ∧ partRatio M ≤ n := by
  have hp : 0 < ∑ i, (hM.1.eigenvalues i) ^ 2 := by
    have h : (Mᴴ * M).trace ≠ 0 := mt trace_conjTranspose_mul_self_eq_zero_iff.mp h0
    rw [hM.1.eq, trace_mul_self_eq_sum_sq hM.1] at h
    exact lt_of_le_of_ne (sum_nonneg fun _ _ => sq_nonneg _) h.symm
  rw [partRatio_eq_eigen hM.1, one_le_div hp, div_le_iff₀ hp]
  exact ⟨sum_sq_le_sq_sum_of_nonneg fun i _ => hM.eigenvalues_nonneg i,
    by simpa using sq_sum_le_card_mul_sum_sq (s := univ) (f := hM.1.eigenvalues)⟩

theorem partRatio_one (hn : 0 < n) : partRatio (1 : Matrix (Fin n) (Fin n) ℝ) = n := by
  have : (n : ℝ) ≠ 0 := Nat.cast_ne_zero.mpr hn.ne'
  simp [partRatio, this]

end partRatio

section gram
variable {n : ℕ} (A : Matrix (Fin n) (Fin n) ℝ)

theorem posSemidef_gram : (Aᵀ * A).PosSemidef := by
  rw [← conjTranspose_eq_transpose_of_trivial]; exact posSemidef_conjTranspose_mul_self A

theorem gram_diag_nonneg (j : Fin n) : 0 ≤ (Aᵀ * A) j j := (posSemidef_gram A).diag_nonneg

theorem isHermitian_gram : (Aᵀ * A).IsHermitian := (posSemidef_gram A).1

theorem gram_ne_zero {A : Matrix (Fin n) (Fin n) ℝ} (hA : A ≠ 0) : Aᵀ * A ≠ 0 := by
  rw [← conjTranspose_eq_transpose_of_trivial]; exact mt conjTranspose_mul_self_eq_zero.mp hA

/-- `AAᵀ` and `AᵀA` have the same two traces -/
theorem partRatio_gram_transpose : partRatio ((Aᵀ)ᵀ * Aᵀ) = partRatio (Aᵀ * A) := by
  rw [partRatio, partRatio, transpose_transpose, trace_mul_comm A, Matrix.mul_assoc,
    trace_mul_comm A, ← Matrix.mul_assoc, ← Matrix.mul_assoc]

theorem partRatio_gram_vecMulVec {a b : Fin n → ℝ} (ha : a ≠ 0) (hb : b ≠ 0) :
    partRatio ((vecMulVec a b)ᵀ * vecMulVec a b) = 1 := by
  have ha' : a ⬝ᵥ a ≠ 0 := mt dotProduct_self_eq_zero.mp ha
  have hb' : b ⬝ᵥ b ≠ 0 := mt dotProduct_self_eq_zero.mp hb
  simp only [partRatio, transpose_vecMulVec, vecMulVec_mul_vecMulVec, trace_vecMulVec,
    dotProduct_smul, smul_dotProduct, smul_eq_mul]
  field_simp

end gram

/-- the entry-wise magnitude matrix `A i j = |F[i·d + j]|` -/
noncomputable def magMat (amps : Array (Cx ℝ)) (d : ℕ) : Matrix (Fin d) (Fin d) ℝ :=
  fun i j => ‖(amps.getD (i.val * d + j.val) Cx.zero).toC‖

theorem entry_mags (amps : Array (Cx ℝ)) (d i j : ℕ) :
    entry (mags amps) d i j = ‖(amps.getD (i * d + j) Cx.zero).toC‖ := by
  unfold entry mags
  by_cases h : i * d + j < amps.size
  · simp [Array.getD, h, Cx.abs_eq]
  · simp [Array.getD, h, lit_zero]

theorem gram_model (amps : Array (Cx ℝ)) (d : ℕ) (j k : Fin d) :
    gram (mags amps) d j.val k.val = ((magMat amps d)ᵀ * magMat amps d) j k := by
  unfold gram
  rw [sumList_range, Finset.sum_range, Matrix.mul_apply]
  simp only [entry_mags, magMat, Matrix.transpose_apply]

theorem trM_model (amps : Array (Cx ℝ)) (d : ℕ) :
    trM (mags amps) d = ((magMat amps d)ᵀ * magMat amps d).trace := by
  unfold trM
  rw [sumList_range, Finset.sum_range]
  exact Finset.sum_congr rfl fun j _ => gram_model amps d j j

theorem trM2_model (amps : Array (Cx ℝ)) (d : ℕ) :
    trM2 (mags amps) d =
      (((magMat amps d)ᵀ * magMat amps d) * ((magMat amps d)ᵀ * magMat amps d)).trace := by
  unfold trM2
  simp only [sumList_range, Finset.sum_range, gram_model, Matrix.trace, Matrix.diag,
    Matrix.mul_apply (M := (magMat amps d)ᵀ * magMat amps d)]

theorem schmidt_eq (amps : Array (Cx ℝ)) (d : ℕ) (h : amps.size = d * d) :
    schmidt amps = if d = 0 then .panic "nalgebra: SVD of an empty matrix"
      else .ok (partRatio ((magMat amps d)ᵀ * magMat amps d)) := by
  simp only [schmidt, h, Nat.sqrt_eq, ne_eq, not_true_eq_false, if_false, trM_model, trM2_model,
    partRatio]

theorem schmidt_square (amps : Array (Cx ℝ)) (d : ℕ) (hd : 0 < d) (h : amps.size = d * d) :
    schmidt amps = .ok (partRatio ((magMat amps d)ᵀ * magMat amps d)) := by
  rw [schmidt_eq amps d h, if_neg hd.ne']

theorem schmidt_empty (amps : Array (Cx ℝ)) (h : amps.size = 0) :
    schmidt amps = .panic "nalgebra: SVD of an empty matrix" :=
  schmidt_eq amps 0 h

theorem magMat_ne_zero (amps : Array (Cx ℝ)) (d : ℕ) (h : amps.size = d * d)
    (hnz : ∃ k, k < amps.size ∧ (amps.getD k Cx.zero).toC ≠ 0) : magMat amps d ≠ 0 := by
  obtain ⟨k, hk, hne⟩ := hnz
  rw [h] at hk
  intro hz
  have := congrFun (congrFun hz ⟨k / d, Nat.div_lt_of_lt_mul hk⟩)
    ⟨k % d, Nat.mod_lt _ (Nat.pos_of_lt_mul_left hk)⟩
  simp only [magMat, Matrix.zero_apply, norm_eq_zero, Nat.div_add_mod'] at this
  exact hne this

noncomputable def transposeArr (d : ℕ) (f : Array (Cx ℝ)) : Array (Cx ℝ) :=
  ((List.range (d * d)).map fun k => f.getD ((k % d) * d + k / d) Cx.zero).toArray

noncomputable def scaleArr (c : Cx ℝ) (f : Array (Cx ℝ)) : Array (Cx ℝ) := f.map (Cx.mul c)

/-- element-wise phases `f_k · e^{iθ_k}` -/
noncomputable def phaseArr (θ : ℕ → ℝ) (f : Array (Cx ℝ)) : Array (Cx ℝ) :=
  ((List.range f.size).map fun k => Cx.mul (f.getD k Cx.zero) (Cx.cis (θ k))).toArray

theorem magMat_transposeArr (d : ℕ) (f : Array (Cx ℝ)) :
    magMat (transposeArr d f) d = (magMat f d)ᵀ := by
  ext i j
  have h := Grid.get2dIndices_flat i.val j.isLt
  simp only [Grid.get2dIndices, Prod.mk.injEq] at h
  simp [magMat, transposeArr, Grid.flat_lt i.isLt j.isLt, h.1, h.2]

theorem magMat_scaleArr (c : Cx ℝ) (d : ℕ) (f : Array (Cx ℝ)) (h : f.size = d * d) :
    magMat (scaleArr c f) d = ‖c.toC‖ • magMat f d := by
  ext i j
  have hlt := h ▸ Grid.flat_lt i.isLt j.isLt
  simp [magMat, scaleArr, hlt, Array.getD]

theorem magMat_phaseArr (θ : ℕ → ℝ) (d : ℕ) (f : Array (Cx ℝ)) (h : f.size = d * d) :
    magMat (phaseArr θ f) d = magMat f d := by
  ext i j
  have hlt := h ▸ Grid.flat_lt i.isLt j.isLt
  simp [magMat, phaseArr, hlt, Complex.norm_exp_ofReal_mul_I]

end Spdc.SchmidtLemmas
