import Spdc.Model.Sweep
import Spdc.Real.Config
/-!
The vocabulary of `C18.setter_frame` (`InRange`, `WellFormed`, `target`, `fieldRound`) and the read-back
identities that prove its rows.
-/
namespace Spdc.Sweep
open Spdc.Cfg

/-- values for which the statement promises read-back of the very value: the beam angles are kept
in their canonical interval by the `Beam` setters -/
def InRange (p : Path) (v : ℝ) : Prop :=
  match p with
  | .signalPhi | .idlerPhi => 0 ≤ v ∧ v < 360
  | .signalTheta | .idlerTheta => -180 < v ∧ v ≤ 180
  | _ => True

/-- `Beam` invariant used by `set_theta_external` (which re-normalises the azimuth) -/
def WellFormed (s : Setup ℝ) : Prop :=
  normAngle s.signal.phi = s.signal.phi ∧ normAngle s.idler.phi = s.idler.phi

/-- the value the named field must read, in the field's unit, by the statement:
the requested value; for `*.frequency_thz` the wavelength c/(v·10¹² Hz) in nm; for
`*.theta_external_deg` the (normalised) Snell-internal angle in degrees; for the poling period the
magnitude (the sign is derived) -/
noncomputable def target (ext : Ext ℝ) (p : Path) (s : Setup ℝ) (v : ℝ) : Outcome ℝ :=
  match p with
  | .signalFrequency | .idlerFrequency | .pumpFrequency => .ok (299792458 / (v * 10 ^ 12) / nano)
  | .signalThetaExternal =>
    (ext.snell s.signal |v * deg| s.crystal).map fun th => normAngleSigned th / deg
  | .idlerThetaExternal =>
    (ext.snell s.idler |v * deg| s.crystal).map fun th => normAngleSigned th / deg
  | .polingPeriod => (computeSign ext s.signal s.pump s.crystal).map fun _ => |v|
  | _ => .ok v

/-- how the named field is rounded: 4 decimals; an azimuth that rounds up to 360.0000 is written
as 0 -/
noncomputable def fieldRound (p : Path) (x : ℝ) : ℝ :=
  match p with
  | .signalPhi | .idlerPhi => wrap360 (sigfigs x)
  | _ => sigfigs x

theorem withPeriod_toCfg (pp : Poling ℝ) (neg : Bool) (v : ℝ) :
    (pp.withPeriod (signMul neg (Transc.abs (v * micro)))).toCfg
      = (match pp.toCfg with
          | .off => .config (.param (sigfigs |v|)) .off
          | .config _ a => .config (.param (sigfigs |v|)) a) := by
  have h (a : Apod ℝ) : (Poling.new (signMul neg (Transc.abs (v * micro))) a).toCfg
      = .config (.param (sigfigs |v|)) a.toCfg := by
    rw [abs_eq, Poling.new_signMul_toCfg (abs_nonneg _), abs_mul, abs_of_pos micro_pos,
      micro_roundtrip]
  cases pp with
  | off => exact h .off
  | on _ _ a => exact h a

/-- the two sides of the frame rule agree by unfolding up to the argument of the rounding; it is
left to show that the value read back, `x`, is the value `y` the statement names -/
theorem frame_of_eq {L : Outcome (Config ℝ)} {c : Config ℝ} {p : Path} {x y : ℝ} (hxy : x = y)
    (h : L = .ok (c.setField p (fieldRound p x))) : L = .ok (c.setField p (fieldRound p y)) :=
  hxy ▸ h

theorem wavelength_readback (v : ℝ) : freqToWl (wlToFreq (v * nano)) / nano = v := by
  rw [wl_roundtrip, nano_roundtrip]

/-- THz as 10¹² cycles per second: `ω = 2π·ν·10¹²` -/
theorem thz_readback (v : ℝ) :
    freqToWl (thzToOmega true v) / nano = 299792458 / (v * 10 ^ 12) / nano := by
  rw [thzToOmega, if_pos rfl, freqToWl_eq, twoPiC_eq, twoPi_eq,
    show (1.0e12 : ℝ) = 10 ^ 12 by norm_num, mul_assoc _ v,
    mul_div_mul_left _ _ (by positivity : (2 : ℝ) * Real.pi ≠ 0)]

end Spdc.Sweep
