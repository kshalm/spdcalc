import Spdc.Model.NM1D
import Spdc.Real.Inst
import Mathlib.Tactic.Linarith
/-!
`Model/NM1D.lean` over ℝ: argmin's two-vertex Nelder–Mead under a bounded cost (C04).  One iteration is
analysed once (`stepCore_spec`) and the executor once (`loop_ind`): a state `⟨s, some s.b.x, s.b.f, _⟩` has
`best_param`/`best_cost` at the best vertex and the loop keeps that shape, so the result of `nelder_mead_1d` is
the best vertex of the last simplex, of which everything holds that the iterations preserve.  Under a NaN-free
cost they preserve `Inv` and any upper bound on the best cost; with every point the simplex reaches above the
upper bound they preserve the best vertex.
-/
namespace Spdc.NM1D

namespace Cost

theorem le_refl {a : Cost ℝ} (ha : a ≠ .nan) : Cost.le a a = true := by
  cases a <;> simp_all [Cost.le]

theorem le_trans {a b d : Cost ℝ} (h1 : Cost.le a b = true) (h2 : Cost.le b d = true) :
    Cost.le a d = true := by
  cases a <;> cases b <;> cases d <;> simp_all [Cost.le]
  exact h1.trans h2

theorem le_of_lt {a b : Cost ℝ} (h : Cost.lt a b = true) : Cost.le a b = true := by
  cases a <;> cases b <;> simp_all [Cost.le, Cost.lt]
  exact h.le

theorem lt_or_le {a b : Cost ℝ} (ha : a ≠ .nan) (hb : b ≠ .nan) :
    Cost.lt a b = true ∨ Cost.le b a = true := by
  cases a <;> cases b <;> simp_all [Cost.le, Cost.lt, lt_or_ge]

theorem le_total {a b : Cost ℝ} (ha : a ≠ .nan) (hb : b ≠ .nan) :
    Cost.le a b = true ∨ Cost.le b a = true :=
  (lt_or_le ha hb).imp_left le_of_lt

theorem ne_nan_of_le_left {a b : Cost ℝ} (h : Cost.le a b = true) : a ≠ .nan := by
  cases a <;> simp_all [Cost.le]

theorem ne_nan_of_le_right {a b : Cost ℝ} (h : Cost.le a b = true) : b ≠ .nan := by
  cases a <;> cases b <;> simp_all [Cost.le]

theorem fin_of_le_fin {a : Cost ℝ} {y : ℝ} (h : Cost.le a (.fin y) = true) :
    ∃ x, a = .fin x ∧ x ≤ y := by
  cases a <;> simp_all [Cost.le]

end Cost

theorem cost1d_of_mem {f : ℝ → Cost ℝ} {lo hi x : ℝ} (h0 : lo ≤ x) (h1 : x ≤ hi) :
    cost1d f lo hi x = f x :=
  if_neg (not_or.mpr ⟨not_lt.mpr h1, not_lt.mpr h0⟩)

theorem cost1d_of_gt {f : ℝ → Cost ℝ} {lo hi x : ℝ} (h : hi < x) : cost1d f lo hi x = .inf :=
  if_pos (Or.inl h)

theorem cost1d_ne_nan {f : ℝ → Cost ℝ} {lo hi : ℝ} (hf : ∀ x, lo ≤ x → x ≤ hi → f x ≠ .nan)
    (x : ℝ) : cost1d f lo hi x ≠ .nan := by
  unfold cost1d
  split_ifs with hc
  · simp
  · rw [not_or, not_lt, not_lt] at hc
    exact hf x hc.2 hc.1

theorem of_cost1d_le_fin {f : ℝ → Cost ℝ} {lo hi x v : ℝ}
    (h : Cost.le (cost1d f lo hi x) (.fin v) = true) :
    lo ≤ x ∧ x ≤ hi ∧ ∃ y, f x = .fin y ∧ y ≤ v := by
  unfold cost1d at h
  split_ifs at h with hc
  · cases h
  · rw [not_or, not_lt, not_lt] at hc
    exact ⟨hc.2, hc.1, Cost.fin_of_le_fin h⟩

section inv
variable (c : ℝ → Cost ℝ)

/-- every vertex carries the cost of its own abscissa and the simplex is sorted -/
structure Inv (s : Simplex ℝ) : Prop where
  hb : s.b.f = c s.b.x
  hw : s.w.f = c s.w.x
  sorted : Cost.le s.b.f s.w.f = true

theorem sort2_inv {p0 p1 : Vtx ℝ} (h0 : p0.f = c p0.x) (h1 : p1.f = c p1.x)
    (n0 : p0.f ≠ .nan) (n1 : p1.f ≠ .nan) :
    Inv c (sort2 p0 p1) ∧ Cost.le (sort2 p0 p1).b.f p0.f = true ∧
      Cost.le (sort2 p0 p1).b.f p1.f = true := by
  unfold sort2
  by_cases hlt : Cost.lt p1.f p0.f = true
  · rw [if_pos hlt]
    exact ⟨⟨h1, h0, Cost.le_of_lt hlt⟩, Cost.le_of_lt hlt, Cost.le_refl n1⟩
  · rw [if_neg hlt]
    have hle := (Cost.lt_or_le n1 n0).resolve_left hlt
    exact ⟨⟨h0, h1, hle⟩, Cost.le_refl n0, hle⟩

theorem shrink_consistent (s : Simplex ℝ) : (shrink c s).f = c (shrink c s).x := rfl

/-- argmin's reflected point `x0 + (x0 − worst)·α` with `x0 = best·(1/1)`, `α = 1` -/
theorem reflect_eq (b w : ℝ) :
    b * ((1.0 : ℝ) / 1.0) + (b * ((1.0 : ℝ) / 1.0) - w) * 1.0 = 2 * b - w := by
  norm_num; ring

/-- the one case analysis of `stepCore`; its second disjunct is argmin's `PotentialBug`: the reflected cost is
not comparable with the best cost, i.e. one of them is NaN -/
theorem stepCore_spec (s : Simplex ℝ) :
    (∃ v, (stepCore c s).1 = some v ∧ v.f = c v.x ∧
      (Cost.le v.f (c (2 * s.b.x - s.w.x)) = true ∨ Cost.le s.b.f (c (2 * s.b.x - s.w.x)) = true)) ∨
    ((stepCore c s).1 = none ∧ Cost.lt (c (2 * s.b.x - s.w.x)) s.b.f = false ∧
      Cost.le s.b.f (c (2 * s.b.x - s.w.x)) = false) := by
  unfold stepCore
  extract_lets x0 xr fr fb fw xe fe xc fc v xc' fc'
  rw [← reflect_eq]
  -- the branches are walked by hand: `split_ifs` on the whole tree is slow to check
  by_cases h1 : (fr.lt fb && fb.le fr) = true
  · rw [if_pos h1]
    exact .inl ⟨_, rfl, rfl, .inr (Bool.and_eq_true_iff.mp h1).2⟩
  rw [if_neg h1]
  by_cases h2 : fr.lt fb = true
  · -- expansion: the better of the expanded and the reflected point
    rw [if_pos h2]
    by_cases h : fe.lt fr = true
    · exact .inl ⟨_, rfl, by rw [if_pos h], .inl (by rw [if_pos h]; exact Cost.le_of_lt h)⟩
    · have hr := Cost.le_refl (Cost.ne_nan_of_le_left (Cost.le_of_lt h2))
      exact .inl ⟨_, rfl, by rw [if_neg h], .inl (by rw [if_neg h]; exact hr)⟩
  rw [if_neg h2]
  by_cases h3 : fb.le fr = true
  · -- contraction or shrink: the reflected point was no better than the best
    rw [if_pos h3]
    split_ifs <;> exact .inl ⟨_, rfl, rfl, .inr h3⟩
  · rw [if_neg h3]
    exact .inr ⟨rfl, Bool.eq_false_iff.mpr h2, Bool.eq_false_iff.mpr h3⟩

theorem step_le_reflect (hc : ∀ x, c x ≠ .nan) {s : Simplex ℝ} (hs : Inv c s) :
    ∃ s', step c s = some s' ∧ Inv c s' ∧ Cost.le s'.b.f s.b.f = true ∧
      Cost.le s'.b.f (c (2 * s.b.x - s.w.x)) = true := by
  have hbn : s.b.f ≠ .nan := by rw [hs.hb]; exact hc _
  rcases stepCore_spec c s with ⟨v, hv, hvc, hbd⟩ | ⟨-, h1, h2⟩
  · have hvn : v.f ≠ .nan := by rw [hvc]; exact hc _
    obtain ⟨hi, hl, hl2⟩ := sort2_inv c hs.hb hvc hbn hvn
    refine ⟨sort2 s.b v, by simp only [step, hv], hi, hl, ?_⟩
    rcases hbd with h | h
    · exact Cost.le_trans hl2 h
    · exact Cost.le_trans hl h
  · -- a NaN-free cost is comparable with the best cost either way
    rcases Cost.lt_or_le (hc _) hbn with h | h
    · rw [h] at h1; cases h1
    · rw [h] at h2; cases h2

theorem step_inv_le (hc : ∀ x, c x ≠ .nan) {a : Cost ℝ} (s : Simplex ℝ)
    (hs : Inv c s ∧ Cost.le s.b.f a = true) :
    ∃ s', step c s = some s' ∧ Inv c s' ∧ Cost.le s'.b.f a = true := by
  obtain ⟨s', h1, h2, h3, -⟩ := step_le_reflect c hc hs.1
  exact ⟨s', h1, h2, Cost.le_trans h3 hs.2⟩

theorem upd_inf {sx : Simplex ℝ} (hn : sx.b.f ≠ .nan) (bx : Option ℝ) :
    upd sx bx .inf = (some sx.b.x, sx.b.f) := by
  unfold upd
  cases hf : sx.b.f with
  | fin a => simp [Cost.lt]
  | inf => simp [Cost.lt, Cost.isInf]
  | nan => exact absurd hf hn

/-- `IterState::update` after the closing sort of an iteration, which replaces the best vertex only by a
strictly better one -/
theorem upd_sort2 (b v : Vtx ℝ) :
    upd (sort2 b v) (some b.x) b.f = (some (sort2 b v).b.x, (sort2 b v).b.f) := by
  unfold sort2 upd
  by_cases hlt : Cost.lt v.f b.f = true
  · simp [hlt]
  · rw [if_neg hlt]; exact ite_self _

theorem upd_step {s s' : Simplex ℝ} (h : step c s = some s') :
    upd s' (some s.b.x) s.b.f = (some s'.b.x, s'.b.f) := by
  unfold step at h
  split at h
  · cases h; exact upd_sort2 _ _
  · cases h

theorem loop_of_sdSmall {tol : ℝ} {st : St ℝ} (h : sdSmall st.sx tol = true) (n : Nat) :
    loop c tol (n + 1) st = some st := by
  rw [loop, if_pos h]

theorem loop_succ {tol : ℝ} {s s' : Simplex ℝ} (h : sdSmall s tol = false) (hs : step c s = some s')
    (n : Nat) (log : List ℝ) :
    loop c tol (n + 1) ⟨s, some s.b.x, s.b.f, log⟩ =
      loop c tol n ⟨s', some s'.b.x, s'.b.f, (stepCore c s).2.reverse ++ log⟩ := by
  rw [loop, if_neg (by simp [h])]
  simp only [hs, upd_step c hs]

theorem loop_ind {P : Simplex ℝ → Prop} (hP : ∀ s, P s → ∃ s', step c s = some s' ∧ P s')
    (tol : ℝ) : ∀ (fuel : Nat) (s : Simplex ℝ) (log : List ℝ), P s →
      ∃ s' log', loop c tol fuel ⟨s, some s.b.x, s.b.f, log⟩ = some ⟨s', some s'.b.x, s'.b.f, log'⟩ ∧
        P s' := by
  intro fuel
  induction fuel with
  | zero => exact fun s log hs => ⟨s, log, rfl, hs⟩
  | succ n ih =>
    intro s log hs
    by_cases hsd : sdSmall s tol = true
    · exact ⟨s, log, loop_of_sdSmall c hsd n, hs⟩
    · obtain ⟨s1, h1, hs1⟩ := hP s hs
      rw [loop_succ c (by simpa using hsd) h1]
      exact ih s1 _ hs1

theorem init_eq {g0 g1 : ℝ} (hn : (init c g0 g1).sx.b.f ≠ .nan) :
    init c g0 g1 =
      ⟨(init c g0 g1).sx, some (init c g0 g1).sx.b.x, (init c g0 g1).sx.b.f, [g1, g0]⟩ := by
  have hn' : (sort2 ⟨g0, c g0⟩ ⟨g1, c g1⟩).b.f ≠ .nan := hn
  simp only [init, upd_inf hn']

theorem init_inv (hc : ∀ x, c x ≠ .nan) (g0 g1 : ℝ) :
    Inv c (init c g0 g1).sx ∧ Cost.le (init c g0 g1).sx.b.f (c g0) = true ∧
      Cost.le (init c g0 g1).sx.b.f (c g1) = true :=
  sort2_inv c (p0 := ⟨g0, c g0⟩) (p1 := ⟨g1, c g1⟩) rfl rfl (hc _) (hc _)

end inv

theorem run_of_loop {f : ℝ → Cost ℝ} {g0 g1 lo hi tol x : ℝ} {n : Nat} {st : St ℝ}
    (hl : loop (cost1d f lo hi) tol n (init (cost1d f lo hi) g0 g1) = some st)
    (hx : st.bestX = some x) : run f g0 g1 n lo hi tol = .ok x := by
  simp only [run, runSt, hl, hx]

theorem run_ind {f : ℝ → Cost ℝ} {g0 g1 lo hi : ℝ} {P : Simplex ℝ → Prop}
    (hP : ∀ s, P s → ∃ s', step (cost1d f lo hi) s = some s' ∧ P s')
    (h0 : P (init (cost1d f lo hi) g0 g1).sx) (hn : (init (cost1d f lo hi) g0 g1).sx.b.f ≠ .nan)
    (n : Nat) (tol : ℝ) : ∃ s, P s ∧ run f g0 g1 n lo hi tol = .ok s.b.x := by
  obtain ⟨s, log, hl, hs⟩ := loop_ind _ hP tol n _ [g1, g0] h0
  exact ⟨s, hs, run_of_loop ((init_eq _ hn).symm ▸ hl) rfl⟩

theorem run_spec (f : ℝ → Cost ℝ) (g0 g1 : ℝ) (maxIter : Nat) (lo hi tol : ℝ)
    (hf : ∀ x, lo ≤ x → x ≤ hi → f x ≠ .nan) :
    ∃ x, run f g0 g1 maxIter lo hi tol = .ok x ∧
      Cost.le (cost1d f lo hi x) (cost1d f lo hi g0) = true ∧
      Cost.le (cost1d f lo hi x) (cost1d f lo hi g1) = true := by
  have hc := cost1d_ne_nan hf
  obtain ⟨hi0, h0, h1⟩ := init_inv _ hc g0 g1
  have hn := hi0.hb ▸ hc _
  -- the best cost stays below what it is for the sorted seeds
  obtain ⟨s, ⟨hs, hle⟩, hrun⟩ := run_ind (step_inv_le _ hc) ⟨hi0, Cost.le_refl hn⟩ hn maxIter tol
  exact ⟨s.b.x, hrun, hs.hb ▸ Cost.le_trans hle h0, hs.hb ▸ Cost.le_trans hle h1⟩

theorem run_eq_seed {f : ℝ → Cost ℝ} {g0 g1 : ℝ} {n : Nat} {lo hi tol : ℝ}
    (hf : ∀ x, lo ≤ x → x ≤ hi → f x ≠ .nan) {m : ℝ} (h0 : cost1d f lo hi g0 = .fin m)
    (huniq : ∀ x y, lo ≤ x → x ≤ hi → f x = .fin y → y ≤ m → x = g0) :
    run f g0 g1 n lo hi tol = .ok g0 := by
  obtain ⟨x, hx, hle, -⟩ := run_spec f g0 g1 n lo hi tol hf
  obtain ⟨hx0, hx1, y, hy, hym⟩ := of_cost1d_le_fin (h0 ▸ hle)
  rw [hx, huniq x y hx0 hx1 hy hym]

theorem sdSmall_of_inf {s : Simplex ℝ} (h : s.b.f = .inf) (tol : ℝ) : sdSmall s tol = false := by
  simp only [sdSmall, h]

theorem init_sx_of_inf {c : ℝ → Cost ℝ} {g0 g1 : ℝ} (h0 : c g0 = .inf) (h1 : c g1 = .inf) :
    (init c g0 g1).sx = ⟨⟨g0, .inf⟩, ⟨g1, .inf⟩⟩ := by
  show sort2 _ _ = _
  rw [h0, h1]; rfl

/-- reflection, then inside contraction, then shrink, each at infinite cost -/
theorem step_of_all_inf {c : ℝ → Cost ℝ} {g w : ℝ} (hr : c (2 * g - w) = .inf)
    (hm : c ((g + w) / 2) = .inf) :
    step c ⟨⟨g, .inf⟩, ⟨w, .inf⟩⟩ = some ⟨⟨g, .inf⟩, ⟨(g + w) / 2, .inf⟩⟩ := by
  -- the inside-contraction point `x0 + (w − x0)·½`, `x0 = g·(1/1)`, and the shrink point
  have e2 : g * ((1.0 : ℝ) / 1.0) + (w - g * ((1.0 : ℝ) / 1.0)) * 0.5 = (g + w) / 2 := by
    norm_num; ring
  have e3 : g + (w - g) * (0.5 : ℝ) = (g + w) / 2 := by norm_num; ring
  simp [step, stepCore, shrink, sort2, reflect_eq, e2, e3, hr, hm, Cost.lt, Cost.le]

theorem run_all_out {f : ℝ → Cost ℝ} {g d : ℝ} (hd : 0 < d) {n : Nat} {lo hi tol : ℝ}
    (h : hi < g - d) : run f g (g + d) n lo hi tol = .ok g := by
  have hs0 := init_sx_of_inf (c := cost1d f lo hi) (g0 := g) (g1 := g + d)
    (cost1d_of_gt (by linarith)) (cost1d_of_gt (by linarith))
  -- the best vertex stays `g` at cost `+∞`; the worst stays above it, its reflection above `hi`
  obtain ⟨_, ⟨w, rfl, -, -⟩, hrun⟩ := run_ind (f := f) (lo := lo) (g0 := g) (g1 := g + d)
    (P := fun s => ∃ w, s = ⟨⟨g, .inf⟩, ⟨w, .inf⟩⟩ ∧ g < w ∧ hi < 2 * g - w)
    (by
      rintro _ ⟨w, rfl, hw, hr⟩
      exact ⟨_, step_of_all_inf (cost1d_of_gt hr) (cost1d_of_gt (by linarith)), _, rfl,
        by linarith, by linarith⟩)
    (by rw [hs0]; exact ⟨g + d, rfl, by linarith, by linarith⟩) (by rw [hs0]; exact nofun) n tol
  exact hrun

/-- both seeds above the bounds, their reflection `g − d` inside with a finite cost: after at least one
iteration the run ends inside the bounds -/
theorem run_in_bounds_of_reflect (f : ℝ → Cost ℝ) (g d lo hi tol : ℝ) (n : Nat) (hd : 0 < d)
    (hf : ∀ x, lo ≤ x → x ≤ hi → f x ≠ .nan) (hg : hi < g) (hr0 : lo ≤ g - d) (hr1 : g - d ≤ hi)
    (hfin : ∃ a, f (g - d) = .fin a) :
    ∃ x, run f g (g + d) (n + 1) lo hi tol = .ok x ∧ lo ≤ x ∧ x ≤ hi := by
  have hc := cost1d_ne_nan hf
  have h0 : cost1d f lo hi g = .inf := cost1d_of_gt hg
  have h1 : cost1d f lo hi (g + d) = .inf := cost1d_of_gt (by linarith)
  have hsx := init_sx_of_inf h0 h1
  obtain ⟨a, ha⟩ := hfin
  -- the first iteration brings the best cost below that of the reflected point `g - d`, where it stays
  obtain ⟨s1, hs1, hi1, -, hr⟩ := step_le_reflect _ hc (s := ⟨⟨g, .inf⟩, ⟨g + d, .inf⟩⟩)
    ⟨h0.symm, h1.symm, rfl⟩
  obtain ⟨s, log, hl, hs, hle⟩ := loop_ind _ (step_inv_le _ hc) tol n s1 _ ⟨hi1, hr⟩
  rw [hs.hb, show 2 * g - (g + d) = g - d by ring, cost1d_of_mem hr0 hr1, ha] at hle
  obtain ⟨hx0, hx1, -⟩ := of_cost1d_le_fin hle
  refine ⟨s.b.x, run_of_loop (st := ⟨s, some s.b.x, s.b.f, log⟩) ?_ rfl, hx0, hx1⟩
  rw [init_eq _ (by rw [hsx]; exact nofun), hsx, loop_succ _ (sdSmall_of_inf rfl tol) hs1]
  exact hl

end Spdc.NM1D
