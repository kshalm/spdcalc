import Spdc.Model.Beam
import Spdc.Real.Index
import Mathlib.Algebra.Order.Floor.Ring
import Mathlib.Analysis.Calculus.Deriv.MeanValue
import Mathlib.Analysis.Real.Pi.Bounds
/-!
The beam model over ℝ (C13): `fmod`, `rem_euclid`, angle normalisation, wavelength ↔ frequency, the beam
invariant, requested-angle bookkeeping.

The crate's unit conversions and `normalize_angle` are transcribed more than once in the model: `Units.*`
(`Model/Units.lean`, lemmas here) for the `utils.rs`-level calls on `Beam`, `DeltaK.*` (`Real/DeltaK.lean`) inside
the Δk layer, `Cfg.wlToFreq` / `freqToWl` (`Real/Config.lean`) in the configuration layer;
`Compose.wavelengthOfFreq_units` / `freqOfWavelength_units` (`Real/ComposeLemmas.lean`) identify the first two
wavelength ↔ frequency conversions.
-/
namespace Spdc.Units

/-- truncation toward zero -/
noncomputable def truncR (q : ℝ) : ℝ := if 0 ≤ q then (⌊q⌋ : ℝ) else (⌈q⌉ : ℝ)

/-- C `fmod` -/
noncomputable instance : FMod ℝ := ⟨fun x y => x - y * truncR (x / y)⟩

theorem fmod_def (x y : ℝ) : FMod.fmod x y = x - y * truncR (x / y) := rfl

theorem twoPi_eq : (twoPi : ℝ) = 2 * Real.pi := by simp only [twoPi, Spdc.lit_two, Transc.pi]

theorem twoPi_pos : 0 < (twoPi : ℝ) := by rw [twoPi_eq]; positivity

theorem truncR_spec (q : ℝ) : ∃ t : ℤ, truncR q = t ∧ (t : ℝ) - 1 < q ∧ q < t + 1 := by
  unfold truncR
  split_ifs
  · exact ⟨⌊q⌋, rfl, by linarith [Int.floor_le q], Int.lt_floor_add_one q⟩
  · exact ⟨⌈q⌉, rfl, by linarith [Int.ceil_lt_add_one q], by linarith [Int.le_ceil q]⟩

theorem remEuclid_spec (x y : ℝ) (hy : 0 < y) :
    0 ≤ remEuclid x y ∧ remEuclid x y < y ∧ ∃ k : ℤ, remEuclid x y = x + k * y := by
  obtain ⟨t, ht, h1, h2⟩ := truncR_spec (x / y)
  -- the `fmod` remainder `x − y·t` lies in `(−y, y)`
  have hlo := (lt_div_iff₀ hy).mp h1
  have hhi := (div_lt_iff₀ hy).mp h2
  simp only [remEuclid, fmod_def, ht, Spdc.lit_zero, Transc.abs, abs_of_pos hy]
  split_ifs with hneg
  · exact ⟨by linarith, by linarith, -t + 1, by push_cast; ring⟩
  · exact ⟨not_lt.mp hneg, by linarith, -t, by push_cast; ring⟩

/-- congruence modulo 2π -/
def Cong (a b : ℝ) : Prop := ∃ k : ℤ, a = b + k * (2 * Real.pi)

theorem Cong.refl (a : ℝ) : Cong a a := ⟨0, by simp⟩
theorem Cong.trans {a b c : ℝ} (h1 : Cong a b) (h2 : Cong b c) : Cong a c := by
  obtain ⟨k, hk⟩ := h1; obtain ⟨l, hl⟩ := h2
  exact ⟨k + l, by rw [hk, hl]; push_cast; ring⟩
theorem Cong.symm {a b : ℝ} (h : Cong a b) : Cong b a := by
  obtain ⟨k, hk⟩ := h
  exact ⟨-k, by rw [hk]; push_cast; ring⟩

theorem normalizeAngle_spec (x : ℝ) :
    0 ≤ normalizeAngle x ∧ normalizeAngle x < 2 * Real.pi ∧ Cong (normalizeAngle x) x := by
  simpa only [normalizeAngle, twoPi_eq, Cong] using remEuclid_spec x twoPi twoPi_pos

theorem normalizeAngleSigned_spec (x : ℝ) :
    -Real.pi < normalizeAngleSigned x ∧ normalizeAngleSigned x ≤ Real.pi ∧
      Cong (normalizeAngleSigned x) x := by
  obtain ⟨h0, h1, k, hk⟩ := remEuclid_spec x twoPi twoPi_pos
  have hpi := Real.pi_pos
  simp only [normalizeAngleSigned, Transc.pi]
  rw [twoPi_eq] at h0 h1 hk ⊢
  by_cases hgt : Real.pi < remEuclid x (2 * Real.pi)
  · rw [if_pos hgt]
    refine ⟨by linarith, by linarith, k - 1, ?_⟩
    rw [hk]; push_cast; ring
  · rw [if_neg hgt]
    exact ⟨by linarith, not_lt.mp hgt, k, hk⟩

theorem remEuclid_zero (y : ℝ) : remEuclid 0 y = 0 := by
  simp only [remEuclid, fmod_def, truncR, zero_div, le_refl, if_true, Int.floor_zero, Int.cast_zero,
    mul_zero, sub_zero, Spdc.lit_zero, lt_irrefl, if_false]

theorem normalizeAngle_zero : normalizeAngle (0 : ℝ) = 0 := remEuclid_zero _

theorem normalizeAngleSigned_zero : normalizeAngleSigned (0 : ℝ) = 0 := by
  simp only [normalizeAngleSigned, remEuclid_zero, Transc.pi, if_neg (not_lt.mpr Real.pi_pos.le)]

theorem vacuumWavelengthToFrequency_eq (x : ℝ) :
    vacuumWavelengthToFrequency x = 2 * Real.pi * 299792458 / x := by
  simp only [vacuumWavelengthToFrequency, wavelengthToFrequency, twoPiC, twoPi_eq, cLight, Spdc.lit_one,
    Spdc.lit_cLight, mul_one]

theorem frequencyToVacuumWavelength_eq (x : ℝ) :
    frequencyToVacuumWavelength x = 2 * Real.pi * 299792458 / x :=
  -- the two conversions unfold to the same `twoPiC / (x * 1.0)`
  vacuumWavelengthToFrequency_eq x

theorem twoPiC_ne_zero : 2 * Real.pi * 299792458 ≠ 0 :=
  mul_ne_zero (mul_ne_zero two_ne_zero Real.pi_ne_zero) (by norm_num)

theorem wavelength_roundtrip (x : ℝ) :
    frequencyToVacuumWavelength (vacuumWavelengthToFrequency x) = x := by
  rw [frequencyToVacuumWavelength_eq, vacuumWavelengthToFrequency_eq, div_div_cancel₀ twoPiC_ne_zero]

theorem frequency_roundtrip (x : ℝ) :
    vacuumWavelengthToFrequency (frequencyToVacuumWavelength x) = x :=
  wavelength_roundtrip x

end Spdc.Units

namespace Spdc.Beam
open Spdc.Units Spdc.Index

theorem polarVector_normSq (φ θ : ℝ) : (polarVector φ θ).normSq = 1 := polar_normSq θ φ

theorem normalize_of_unit (v : Vec3 ℝ) (h : v.normSq = 1) : normalize v = v := by
  simp only [normalize, h, Transc.sqrt, Real.sqrt_one, div_one]

theorem directionFromPolar_eq (φ θ : ℝ) : directionFromPolar φ θ = polarVector φ θ :=
  normalize_of_unit _ (polarVector_normSq φ θ)

theorem toCost_eq_fin (x : ℝ) : toCost x = NM1D.Cost.fin x := by
  simp only [toCost, isFinite_eq_true, beq_self_eq_true, Bool.not_true, Bool.false_eq_true, if_false,
    if_true]

/-- mean-value bound, the cosine being smallest at the ends of `[−θm, θm]` -/
theorem cos_mul_abs_sub_le_abs_sin_sub {θm p q : ℝ} (hm : θm ≤ Real.pi) (hp : |p| ≤ θm)
    (hq : |q| ≤ θm) : Real.cos θm * |q - p| ≤ |Real.sin q - Real.sin p| := by
  wlog hpq : p ≤ q generalizing p q
  · rw [abs_sub_comm q, abs_sub_comm (Real.sin q)]
    exact this hq hp (le_of_not_ge hpq)
  rw [abs_of_nonneg (sub_nonneg.mpr hpq)]
  refine le_trans ?_ (le_abs_self _)
  refine (convex_Icc (-θm) θm).mul_sub_le_image_sub_of_le_deriv Real.continuous_sin.continuousOn
    Real.differentiable_sin.differentiableOn ?_ p (abs_le.mp hp) q (abs_le.mp hq) hpq
  intro c hc
  rw [interior_Icc] at hc
  rw [Real.deriv_sin, ← Real.cos_abs c]
  exact Real.cos_le_cos_of_nonneg_of_le_pi (abs_nonneg c) hm (abs_le.mpr ⟨hc.1.le, hc.2.le⟩)

/-- the state invariant of the C13 statement (half-open azimuth range over ℝ) -/
structure Inv (b : Beam ℝ) : Prop where
  dir : b.direction = polarVector b.phi b.theta
  phi_lo : 0 ≤ b.phi
  phi_hi : b.phi < 2 * Real.pi
  theta_lo : -Real.pi < b.theta
  theta_hi : b.theta ≤ Real.pi

theorem Inv.of_normalized {b : Beam ℝ} {φ θ : ℝ} (hφ : b.phi = normalizeAngle φ)
    (hθ : b.theta = normalizeAngleSigned θ) (hd : b.direction = directionFromPolar b.phi b.theta) :
    Inv b := by
  obtain ⟨a1, a2, _⟩ := normalizeAngle_spec φ
  obtain ⟨b1, b2, _⟩ := normalizeAngleSigned_spec θ
  rw [← hφ] at a1 a2
  rw [← hθ] at b1 b2
  exact ⟨hd.trans (directionFromPolar_eq _ _), a1, a2, b1, b2⟩

theorem step_intoPump_direction (b : Beam ℝ) : (step b .intoPump).direction = ⟨0, 0, 1⟩ := by
  simp only [step, setAngles, updateDirection, lit_zero, normalizeAngle_zero, normalizeAngleSigned_zero,
    directionFromPolar_eq, polarVector, Transc.sin, Transc.cos, Real.sin_zero, Real.cos_zero, mul_one,
    mul_zero]

/-- what the history last asked for: `(φ, θ)` -/
def reqStep (r : ℝ × ℝ) : Op ℝ → ℝ × ℝ
  | .setPhi φ => (φ, r.2)
  | .setThetaInternal θ => (r.1, θ)
  | .setAngles φ θ => (φ, θ)
  | .setThetaExternal t => (r.1, t)
  | .intoPump => (0, 0)
  | _ => r

def requested (φ θ : ℝ) (ops : List (Op ℝ)) : ℝ × ℝ := ops.foldl reqStep (φ, θ)

theorem cong_step (b : Beam ℝ) (r : ℝ × ℝ) (h1 : Cong b.phi r.1) (h2 : Cong b.theta r.2) (op : Op ℝ) :
    Cong (step b op).phi (reqStep r op).1 ∧ Cong (step b op).theta (reqStep r op).2 := by
  cases op with
  | setPhi φ => exact ⟨(normalizeAngle_spec φ).2.2, h2⟩
  | setThetaInternal θ => exact ⟨h1, (normalizeAngleSigned_spec θ).2.2⟩
  | setAngles φ θ => exact ⟨(normalizeAngle_spec φ).2.2, (normalizeAngleSigned_spec θ).2.2⟩
  | setThetaExternal t =>
    refine ⟨((normalizeAngle_spec b.phi).2.2).trans h1, ?_⟩
    show Cong (normalizeAngleSigned ((1.0 : ℝ) * t)) t
    rw [lit_one, one_mul]
    exact (normalizeAngleSigned_spec t).2.2
  | intoPump =>
    show Cong (normalizeAngle (0.0 : ℝ)) 0 ∧ Cong (normalizeAngleSigned (0.0 : ℝ)) 0
    rw [lit_zero, normalizeAngle_zero, normalizeAngleSigned_zero]
    exact ⟨.refl 0, .refl 0⟩
  | _ => exact ⟨h1, h2⟩

end Spdc.Beam
