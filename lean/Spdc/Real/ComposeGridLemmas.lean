import Spdc.Model.ComposeGrid
import Spdc.Real.ComposeLemmas
import Spdc.Real.ComposeAutoLemmas
import Spdc.Real.HomLemmas
/-!
Part 3 of the composed model (`Model/ComposeGrid.lean`) over ℝ.  Once the joint-spectrum view
`jsetup S = ok J` and the Simpson rule exist, the composed `jsa` / `jsi` are total functions of the frequencies
(`PM.jsa J …`), so every `*_range` is a `List.map` in the grid's row-major order and the HOM / Schmidt / counts
functions are the layer functions applied to the sampled arrays.  The hypotheses can be met (`exGrid`).
-/
namespace Spdc.Compose
open Spdc.Grid Spdc.Outcome

theorem mapPoints_eq_ok {β : Type} (F : ℝ → ℝ → Outcome β) (f : ℝ → ℝ → β) (pts : List (ℝ × ℝ))
    (h : ∀ p ∈ pts, F p.1 p.2 = .ok (f p.1 p.2)) :
    mapPoints F pts = .ok (pts.map fun p => f p.1 p.2) := by
  unfold mapPoints
  rw [← HomLemmas.collectOutcomes_map_ok]
  exact congrArg _ (List.map_congr_left h)

theorem mapPoints_total {β : Type} (f : ℝ → ℝ → β) (pts : List (ℝ × ℝ)) :
    mapPoints (fun a b => Outcome.ok (f a b)) pts = .ok (pts.map fun p => f p.1 p.2) :=
  HomLemmas.collectOutcomes_map_ok pts fun p => f p.1 p.2

theorem mapPoints_map {β γ : Type} (F : ℝ → ℝ → Outcome β) (c : β → γ) (pts : List (ℝ × ℝ)) :
    mapPoints (fun a b => (F a b).map c) pts = (mapPoints F pts).map (List.map c) := by
  unfold mapPoints
  rw [← HomLemmas.collectOutcomes_map, List.map_map]
  rfl

theorem jsiSinglesRaw_eq (S : Setup ℝ) (divs : Nat) (ωs ωi : ℝ) :
    jsiSinglesRaw S divs ωs ωi
      = onSupport S ωs ωi (0.0 : ℝ) (Quad.simpson2dDivs divs)
          fun J _ => PM.jsiSinglesRaw (singlesSimpsonOf divs) J ωs ωi := rfl

/-- `PM.jsaRaw` repeats the two tests of `offSupport` on the view's own copy of the pump fields -/
theorem offSupport_jsetup {S : Setup ℝ} {J : PM.JSetup ℝ} (hJ : jsetup S = .ok J) {ωs ωi : ℝ}
    (hoff : offSupport S ωs ωi = true) :
    PM.invalidFrequencies ωs ωi J.omegaP = true
      ∨ PM.pumpSpectralAmplitude (ωs + ωi) J.omegaP J.bandwidth < J.threshold := by
  obtain ⟨hw, hb, ht⟩ := jsetup_pump hJ
  rwa [offSupport, pumpAmplitude, Bool.or_eq_true, decide_eq_true_iff, ← hw, ← hb, ← ht] at hoff

theorem jsa_eq_ok {S : Setup ℝ} {J : PM.JSetup ℝ} (hJ : jsetup S = .ok J) {divs : Nat}
    {r : List (ℝ × ℝ) × ℝ} (hr : simpsonRule divs = .ok r) (ωs ωi : ℝ) :
    jsa S divs ωs ωi = .ok (PM.jsa J r.1 r.2 ωs ωi) :=
  (jsa_eq ..).trans <|
    onSupport_eq_ok hJ hr fun hoff => PM.jsa_off_support J r.1 r.2 (offSupport_jsetup hJ hoff)

theorem jsi_eq_ok {S : Setup ℝ} {J : PM.JSetup ℝ} (hJ : jsetup S = .ok J) {divs : Nat}
    {r : List (ℝ × ℝ) × ℝ} (hr : simpsonRule divs = .ok r) (ωs ωi : ℝ) :
    jsi S divs ωs ωi = .ok (PM.jsi J r.1 r.2 ωs ωi) :=
  (jsi_eq ..).trans <| onSupport_eq_ok hJ hr fun hoff =>
    (PM.jsi_off_support J r.1 r.2 (offSupport_jsetup hJ hoff)).trans lit_zero.symm

theorem jointSpectrum_ok {S : Setup ℝ} {divs : Nat} {js : JS ℝ} (h : jointSpectrum S divs = .ok js) :
    js.S = S ∧ js.divs = divs ∧
      ∃ o, asOptimum S = .ok o ∧ centreValues o divs = .ok (js.jsaCenter, js.jsiSinglesCenter) := by
  unfold jointSpectrum at h
  split at h
  · rename_i o ho
    obtain ⟨c, hc, rfl⟩ := map_eq_ok.mp h
    exact ⟨rfl, rfl, o, ho, hc⟩
  · cases h
  · cases h

theorem jointSpectrum_eq_ok {S o : Setup ℝ} (ho : asOptimum S = .ok o) {divs : Nat} {c : ℝ × ℝ}
    (hc : centreValues o divs = .ok c) : jointSpectrum S divs = .ok ⟨S, divs, c.1, c.2⟩ := by
  unfold jointSpectrum
  rw [ho]
  simp only [hc, map_ok]

theorem JS.jsa_total {js : JS ℝ} {J : PM.JSetup ℝ} (hJ : jsetup js.S = .ok J)
    {r : List (ℝ × ℝ) × ℝ} (hr : simpsonRule js.divs = .ok r) :
    js.jsa = fun ωs ωi => .ok (PM.jsa J r.1 r.2 ωs ωi) :=
  funext fun ωs => funext fun ωi => jsa_eq_ok hJ hr ωs ωi

theorem JS.jsi_total {js : JS ℝ} {J : PM.JSetup ℝ} (hJ : jsetup js.S = .ok J)
    {r : List (ℝ × ℝ) × ℝ} (hr : simpsonRule js.divs = .ok r) :
    js.jsi = fun ωs ωi => .ok (PM.jsi J r.1 r.2 ωs ωi) :=
  funext fun ωs => funext fun ωi => jsi_eq_ok hJ hr ωs ωi

theorem collect_eq (g : Steps2D ℝ) : g.collect = (List.range g.len).map g.value := rfl

theorem homArrays_eq {js : JS ℝ} {J : PM.JSetup ℝ} (hJ : jsetup js.S = .ok J)
    {r : List (ℝ × ℝ) × ℝ} (hr : simpsonRule js.divs = .ok r) (g : Steps2D ℝ) :
    homArrays js g = .ok (Hom.sampled (PM.jsa J r.1 r.2) g, Hom.sampledSwapped (PM.jsa J r.1 r.2) g) := by
  unfold homArrays
  simp only [JS.jsa_total hJ hr, mapPoints_total, bind_ok, map_ok, HomLemmas.sampled_eq, HomLemmas.sampledSwapped_eq]

theorem getJsa_eq {js : JS ℝ} {J : PM.JSetup ℝ} (hJ : jsetup js.S = .ok J)
    {r : List (ℝ × ℝ) × ℝ} (hr : simpsonRule js.divs = .ok r) (x y : Steps ℝ) :
    getJsa js x y = .ok (Hom.sampled (PM.jsa J r.1 r.2) ⟨x, y⟩) := by
  unfold getJsa
  rw [JS.jsa_total hJ hr, mapPoints_total, map_ok, HomLemmas.sampled_eq]

theorem twoSrc_eq {js1 js2 : JS ℝ} {J1 J2 : PM.JSetup ℝ} (h1 : jsetup js1.S = .ok J1)
    (h2 : jsetup js2.S = .ok J2) {q1 q2 : List (ℝ × ℝ) × ℝ} (hr1 : simpsonRule js1.divs = .ok q1)
    (hr2 : simpsonRule js2.divs = .ok q2) (r1 r2 : Steps2D ℝ) :
    twoSrc js1 js2 r1 r2 = .ok (Hom.twoSrcOf (PM.jsa J1 q1.1 q1.2) (PM.jsa J2 q2.1 q2.2) r1 r2) := by
  unfold twoSrc
  simp only [getJsa_eq h1 hr1, getJsa_eq h2 hr2, bind_ok, map_ok]
  rfl

theorem cellArea_eq_ok (g : Steps2D ℝ) (hx : g.x.n ≠ 0) (hy : g.y.n ≠ 0) :
    cellArea g = .ok (Counts.cellArea g) := by
  simp [cellArea, divisionWidth, hx, hy, Counts.cellArea]

theorem countsCorrection_scaled (S : Setup ℝ) (a b : ℝ) :
    countsCorrection (S.scaled a b) = countsCorrection S := by
  unfold countsCorrection
  rfl

theorem countsOf_eq (S : Setup ℝ) (g : Steps2D ℝ) (hx : g.x.n ≠ 0) (hy : g.y.n ≠ 0)
    (f : ℝ → ℝ → Outcome ℝ) :
    countsOf S g f = (countsCorrection S).bind fun corr =>
      (mapPoints f g.collect).map fun vals => Counts.counts corr g vals := by
  unfold countsOf
  rw [cellArea_eq_ok g hx hy]
  rfl

theorem countsOf_scaled (S : Setup ℝ) (a b : ℝ) (g : Steps2D ℝ) {f f' : ℝ → ℝ → Outcome ℝ} {c : ℝ}
    (h : ∀ x y, f' x y = (f x y).map (c * ·)) :
    countsOf (S.scaled a b) g f' = (countsOf S g f).map (c * ·) := by
  rw [show f' = fun x y => (f x y).map (c * ·) from funext fun x => funext (h x), countsOf,
    countsCorrection_scaled, countsOf, map_bind]
  refine bind_congr fun dw2 _ => ?_
  rw [map_bind]
  refine bind_congr fun corr _ => ?_
  rw [mapPoints_map, map_map, map_map]
  refine map_congr fun vals _ => ?_
  -- `c` passes through the sum: `corr · Σ ((c·v)·dw2) = c · (corr · Σ (v·dw2))`
  rw [sumList_eq, sumList_eq, List.map_map, mul_left_comm c corr]
  refine congrArg (corr * ·) ?_
  rw [← List.sum_map_mul_left]
  exact congrArg _ (List.map_congr_left fun v _ => mul_assoc c v dw2)

theorem jointSpectrum_scaled {S : Setup ℝ} {a b : ℝ} {divs : Nat} {js js' : JS ℝ}
    (hjs : jointSpectrum S divs = .ok js) (hjs' : jointSpectrum (S.scaled a b) divs = .ok js')
    (ωs ωi : ℝ) :
    js'.jsi ωs ωi = (js.jsi ωs ωi).map (a * b ^ 2 * ·)
      ∧ js'.jsiSingles ωs ωi = (js.jsiSingles ωs ωi).map (a * b ^ 2 * ·) := by
  obtain ⟨rfl, rfl, -⟩ := jointSpectrum_ok hjs
  obtain ⟨hS', hd', -⟩ := jointSpectrum_ok hjs'
  simp only [JS.jsi, JS.jsiSingles, hS', hd']
  exact ⟨jsi_scaled .., jsiSingles_scaled ..⟩

theorem swap_scaled (S : Setup ℝ) (a b : ℝ) : (S.scaled a b).swap = S.swap.scaled a b := rfl

theorem jsiNormalizationC_eq {S : Setup ℝ} {J : PM.JSetup ℝ} (hJ : jsetup S = .ok J) (ωs ωi : ℝ) :
    jsiNormalizationC S ωs ωi = .ok (PM.jsiNormalization J.normIn J.sig J.idl ωs ωi) := by
  obtain ⟨i, rho, ke, hi, -, -, rfl⟩ := jsetup_ok hJ
  unfold jsiNormalizationC
  rw [hi]
  rfl

theorem centreValues_ok {o : Setup ℝ} {divs : Nat} {c : ℝ × ℝ} (h : centreValues o divs = .ok c) :
    ∃ i n r, idlerBeam o = .ok i ∧
      jsiNormalizationC o (signalBeam o).frequency i.frequency = .ok n ∧
      jsaRaw o divs (signalBeam o).frequency i.frequency = .ok r ∧ c.1 = Real.sqrt n * r.abs := by
  simp only [centreValues, bind_eq_ok, map_eq_ok] at h
  obtain ⟨i, hi, n, hn, r, hr, ns, -, rs, -, rfl⟩ := h
  exact ⟨i, n, r, hi, hn, hr, rfl⟩

theorem jsaRaw_ne_zero {S : Setup ℝ} {divs : Nat} {ωs ωi : ℝ} {r : Cx ℝ}
    (h : jsaRaw S divs ωs ωi = .ok r) (hr : r ≠ Cx.zero) :
    ∃ J q, jsetup S = .ok J ∧ simpsonRule divs = .ok q ∧ r = PM.jsaRaw J q.1 q.2 ωs ωi :=
  onSupport_ne_zero ((jsaRaw_eq ..).symm.trans h) hr

theorem walkoff_isOk (S : Setup ℝ) : ∃ ρ, walkoff S = .ok ρ :=
  Index.walkoff_isOk _ _ _ _ _

theorem kEff_off (S : Setup ℝ) (h : S.poling = .off) : kEff S = .ok 0 := by
  simp [kEff, pp, h, Poling.PP.kEff, lit_zero]

theorem jsetup_isOk {S : Setup ℝ} {i : Beam.Beam ℝ} (hi : idlerBeam S = .ok i) {ke : ℝ}
    (hk : kEff S = .ok ke) : ∃ J, jsetup S = .ok J := by
  obtain ⟨ρ, hρ⟩ := walkoff_isOk S
  exact ⟨_, by unfold jsetup; rw [hi, hρ, hk]; rfl⟩

theorem centreValues_isOk {o : Setup ℝ} {J : PM.JSetup ℝ} (hJ : jsetup o = .ok J) {divs : Nat}
    {q : List (ℝ × ℝ) × ℝ} (hq : simpsonRule divs = .ok q) {d : Nat}
    (hd : Quad.simpson2dDivs divs = .ok d) : ∃ c, centreValues o divs = .ok c := by
  obtain ⟨i, -, -, hi, -⟩ := jsetup_ok hJ
  simp only [centreValues, jsiNormalizationC, jsiSinglesNormalizationC, hi, jsaRaw_eq, jsiSinglesRaw_eq,
    onSupport_eq hJ hq, onSupport_eq hJ hd, bind_ok, map_ok]
  exact ⟨_, rfl⟩

theorem autoIdler_isOk (S : Setup ℝ)
    (hlam : Beam.vacuumWavelength (pumpBeam S) < Beam.vacuumWavelength (signalBeam S)) :
    ∃ i, autoIdler S = .ok i :=
  ⟨_, by rw [autoIdler, DeltaK.optimumIdler_of_lt (i := idlerIn S) hlam, map_ok]⟩

theorem asOptimum_isOk_unpoled (S : Setup ℝ) (hp : S.poling = .off) (h : S.lamP < S.sig.lam) :
    ∃ o i, asOptimum S = .ok o ∧ o.poling = .off ∧ idlerBeam o = .ok i := by
  have hlam : Beam.vacuumWavelength (pumpBeam (optReset S))
      < Beam.vacuumWavelength (signalBeam (optReset S)) := by
    rw [pump_wavelength, signal_wavelength]; exact h
  obtain ⟨θ, hθ⟩ := optimumThetaB_isOk (optReset S) _ _ hlam
  obtain ⟨i, hi⟩ := autoIdler_isOk { optReset S with cTheta := θ } hlam
  refine ⟨?_, i, ?ho, ?_, ?_⟩
  case ho =>
    rw [asOptimum, optDecide_off (optReset S) hp, if_neg (not_le.mpr hlam), hθ, map_ok, bind_ok,
      optFinish_eq, hi, map_ok]
  exacts [hp, hi]

theorem jointSpectrum_isOk_unpoled (S : Setup ℝ) (hp : S.poling = .off) (h : S.lamP < S.sig.lam)
    {divs : Nat} {q : List (ℝ × ℝ) × ℝ} (hq : simpsonRule divs = .ok q) {d : Nat}
    (hd : Quad.simpson2dDivs divs = .ok d) : ∃ js, jointSpectrum S divs = .ok js := by
  obtain ⟨o, i, ho, hpo, hi⟩ := asOptimum_isOk_unpoled S hp h
  obtain ⟨J, hJ⟩ := jsetup_isOk hi (kEff_off o hpo)
  obtain ⟨c, hc⟩ := centreValues_isOk hJ hq hd
  exact ⟨_, jointSpectrum_eq_ok ho hc⟩

/-- the outcome hypotheses `hjs`, `hJ`, `hq` of the grid-level theorems can be met together -/
theorem grid_hypotheses_satisfiable (S : Setup ℝ) (hp : S.poling = .off) (ha : S.idlerAuto = false)
    (h0 : S.lamP ≠ 0) (h1 : S.sig.lam ≠ 0) (h : S.lamP < S.sig.lam) :
    ∃ js J q, jointSpectrum S 50 = .ok js ∧ jsetup S = .ok J ∧
      (simpsonRule 50 : Outcome (List (ℝ × ℝ) × ℝ)) = .ok q := by
  obtain ⟨js, hjs⟩ := jointSpectrum_isOk_unpoled S hp h (divs := 50) rfl rfl
  obtain ⟨J, hJ⟩ := jsetup_isOk (idlerBeam_explicit S ha) (kEff_off S hp)
  exact ⟨js, J, _, hjs, hJ, rfl⟩

/-- unpoled, explicit idler: KTP type II, 775 → 1500 + 1603 nm -/
def exGrid : Setup ℝ :=
  { crystal := .KTP, cTheta := 1.5, cPhi := 0, L := 0.01, T := 293, counterProp := false,
    pm := .t2_e_eo, lamP := 775e-9, wpx := 1e-4, wpy := 1e-4, bandwidth := 1e-9, power := 1,
    threshold := 0.01, deff := 1e-12,
    sig := ⟨1500e-9, 0.01, 0, 5e-5, 5e-5, -0.003⟩, idl := ⟨1603e-9, 0.011, 3, 6e-5, 6e-5, -0.002⟩,
    idlerAuto := false, poling := .off }

theorem exGrid_lamP_pos : 0 < exGrid.lamP := by
  show (0 : ℝ) < 775e-9
  norm_num

theorem exGrid_lamP_lt_sig : exGrid.lamP < exGrid.sig.lam := by
  show (775e-9 : ℝ) < 1500e-9
  norm_num

theorem exGrid_lamP_lt_idl : exGrid.lamP < exGrid.idl.lam := by
  show (775e-9 : ℝ) < 1603e-9
  norm_num

theorem exGrid_available : ∃ js J q, jointSpectrum exGrid 50 = .ok js ∧ jsetup exGrid = .ok J ∧
    (simpsonRule 50 : Outcome (List (ℝ × ℝ) × ℝ)) = .ok q :=
  grid_hypotheses_satisfiable exGrid rfl rfl exGrid_lamP_pos.ne'
    (exGrid_lamP_pos.trans exGrid_lamP_lt_sig).ne' exGrid_lamP_lt_sig

theorem exGrid_swap_available : ∃ sw, jointSpectrum exGrid.swap 50 = .ok sw :=
  jointSpectrum_isOk_unpoled exGrid.swap rfl exGrid_lamP_lt_idl (divs := 50) rfl rfl

theorem exGrid_optimum_available :
    ∃ (o : Setup ℝ) (js : JS ℝ), asOptimum o = .ok o ∧ jointSpectrum o 50 = .ok js := by
  obtain ⟨js, -, -, hjs, -⟩ := exGrid_available
  obtain ⟨-, -, o, ho, hc⟩ := jointSpectrum_ok hjs
  have hfix := asOptimum_idem exGrid o ho rfl
  -- the spectrum of `exGrid` holds the centre values of `o`, which is its own optimum
  exact ⟨o, _, hfix, jointSpectrum_eq_ok hfix hc⟩

end Spdc.Compose
