import Spdc.Model.Counts
import Spdc.Real.Inst
/-!
`efficiencies_from_counts` over ℝ (C08): the zero guards are redundant (`x / 0 = 0`), so the three efficiencies
are plain quotients; `0 ≤ C ≤ Rs, Ri` then puts each of them in the unit interval.
-/
namespace Spdc.Counts

theorem beq_zero_real (x : ℝ) : (x == (0.0 : ℝ)) = true ↔ x = 0 := by
  simp [lit_zero]

theorem transc_sqrt_real (x : ℝ) : (Transc.sqrt x : ℝ) = Real.sqrt x := rfl

theorem guard_div (b : Bool) (x d : ℝ) (h : b = true → d = 0) :
    (if b then (0.0 : ℝ) else x / d) = x / d :=
  ite_zero_guard fun hb => by rw [h hb, div_zero]

theorem efficienciesFromCounts_real (c rs ri : ℝ) :
    efficienciesFromCounts c rs ri
      = ⟨c / (Real.sqrt rs * Real.sqrt ri), c / ri, c / rs, c, rs, ri⟩ := by
  unfold efficienciesFromCounts
  rw [guard_div _ c ri (beq_zero_real ri).mp, guard_div _ c rs (beq_zero_real rs).mp,
    guard_div _ c (Transc.sqrt rs * Transc.sqrt ri) fun h => by
      rcases (Bool.or_eq_true _ _).mp h with h | h
      · rw [(beq_zero_real rs).mp h, transc_sqrt_real, Real.sqrt_zero, zero_mul]
      · rw [(beq_zero_real ri).mp h, transc_sqrt_real 0, Real.sqrt_zero, mul_zero]]
  rfl

theorem div_mem_unit {c r : ℝ} (h0 : 0 ≤ c) (h : c ≤ r) : 0 ≤ c / r ∧ c / r ≤ 1 :=
  ⟨div_nonneg h0 (h0.trans h), div_le_one_of_le₀ h (h0.trans h)⟩

theorem le_sqrt_mul_sqrt {c rs ri : ℝ} (h0 : 0 ≤ c) (hs : c ≤ rs) (hi : c ≤ ri) :
    c ≤ Real.sqrt rs * Real.sqrt ri :=
  (Real.mul_self_sqrt h0).symm.trans_le
    (mul_le_mul (Real.sqrt_le_sqrt hs) (Real.sqrt_le_sqrt hi) (Real.sqrt_nonneg _) (Real.sqrt_nonneg _))

end Spdc.Counts
