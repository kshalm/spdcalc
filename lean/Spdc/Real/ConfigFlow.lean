import Spdc.Real.Config
import Spdc.Real.Outcome
/-!
# Control-flow lemmas about `tryAsSpdcG` (C16-T3, C17): inversion of `ok`, panic-freedom
-/
namespace Spdc

namespace Cfg
open Outcome

/-- none of the numeric sub-routines panics on any input -/
structure ExtNoPanic (ext : Ext ℝ) : Prop where
  snell : ∀ b a c, NP (ext.snell b a c)
  signNeg : ∀ s p c, NP (ext.signNeg s p c)
  period : ∀ s p c, NP (ext.period s p c)
  theta : ∀ c s p, NP (ext.theta c s p)
  idler : ∀ s p c pp, NP (ext.idler s p c pp)
  waistPos : ∀ c l pol, NP (ext.waistPos c l pol)

variable {ext : Ext ℝ}

/-! behind `λp < λs` each wrapper around an `unwrap()` is its numeric sub-routine -/

theorem computeSign_of_guard {s p : Beam ℝ} (hl : lsLeLp s p = false) (c : Crystal ℝ) :
    computeSign ext s p c = ext.signNeg s p c := by rw [computeSign, hl]; rfl

theorem optimumPolingPeriod_of_guard {s p : Beam ℝ} (hl : lsLeLp s p = false) (c : Crystal ℝ) :
    optimumPolingPeriod ext s p c = ext.period s p c := by rw [optimumPolingPeriod, hl]; rfl

theorem optimumTheta_of_guard {s p : Beam ℝ} (hl : lsLeLp s p = false) (c : Crystal ℝ) :
    optimumTheta ext c s p = ext.theta c s p := by rw [optimumTheta, hl]; rfl

theorem optimumIdler_of_guard {s p : Beam ℝ} (hl : lsLeLp s p = false) (c : Crystal ℝ)
    (pp : Poling ℝ) : optimumIdler ext s p c pp = ext.idler s p c pp := by
  rw [optimumIdler, hl]; rfl

theorem np_tryAsBeam (hx : ExtNoPanic ext) {b : BeamCfg ℝ} {pol : PM.Pol} {c : Crystal ℝ} :
    NP (b.tryAsBeam ext pol c) := by
  unfold BeamCfg.tryAsBeam
  split
  · exact np_ok _
  · exact np_map _ (hx.snell _ _ _)
  · exact np_err _

theorem np_tryAsPoling (hx : ExtNoPanic ext) {pc : PolingCfg ℝ} {s p : Beam ℝ} {c : Crystal ℝ}
    (hl : lsLeLp s p = false) : NP (pc.tryAsPoling ext s p c) := by
  unfold PolingCfg.tryAsPoling
  split
  · exact np_ok _
  · rw [optimumPolingPeriod_of_guard hl]; exact np_map _ (hx.period _ _ _)
  · rw [computeSign_of_guard hl]; exact np_map _ (hx.signNeg _ _ _)

theorem np_thetaStep (hx : ExtNoPanic ext) {cfg : Config ℝ} {c0 : Crystal ℝ} {s p : Beam ℝ}
    {pp : Poling ℝ} (hl : lsLeLp s p = false) : NP (thetaStep ext cfg c0 s p pp) := by
  rw [thetaStep, optimumTheta_of_guard hl]
  exact np_ite (fun _ => np_ite (fun _ => np_map _ (hx.theta _ _ _)) fun _ => np_err _)
    fun _ => np_ok _

theorem np_idlerStep (hx : ExtNoPanic ext) {cfg : Config ℝ} {s p : Beam ℝ} {c1 : Crystal ℝ}
    {pp : Poling ℝ} : NP (idlerStep ext cfg s p c1 pp) := by
  unfold idlerStep optimumIdler
  split
  · exact np_tryAsBeam hx
  · exact np_ite (fun _ => np_err _) fun _ => hx.idler _ _ _ _

theorem np_waistPosition (hx : ExtNoPanic ext) {w : Auto ℝ} {c : Crystal ℝ} {b : Beam ℝ} :
    NP (waistPosition ext w c b) := by
  cases w
  · exact hx.waistPos _ _ _
  · exact np_ok _

theorem tryAsBeam_wavelength {b : BeamCfg ℝ} {pol : PM.Pol} {c : Crystal ℝ}
    {beam : Beam ℝ} (h : b.tryAsBeam ext pol c = .ok beam) :
    beam.wavelength = b.wavelengthNm * nano := by
  -- no angle setter touches the frequency that `Beam::new` stored
  unfold BeamCfg.tryAsBeam at h
  split at h
  · cases h
    exact wl_roundtrip _
  · simp only [Beam.setThetaExternal, map_eq_ok] at h
    obtain ⟨th, _, rfl⟩ := h
    exact wl_roundtrip _
  · cases h

theorem pump_wavelength (p : PumpCfg ℝ) (c : Crystal ℝ) :
    (p.asBeam c).wavelength = p.wavelengthNm * nano := wl_roundtrip _

theorem lsLeLp_iff {cfg : Config ℝ} {pol : PM.Pol} {c : Crystal ℝ} {signal : Beam ℝ}
    (h : cfg.signal.tryAsBeam ext pol c = .ok signal) (c' : Crystal ℝ) :
    lsLeLp signal (cfg.pump.asBeam c') = true ↔ cfg.signal.wavelengthNm ≤ cfg.pump.wavelengthNm := by
  unfold lsLeLp
  rw [decide_eq_true_iff, tryAsBeam_wavelength h, pump_wavelength]
  exact mul_le_mul_iff_of_pos_right nano_pos

theorem tryAsSpdcG_ok {g : Bool} {cfg : Config ℝ} {s : Setup ℝ}
    (h : tryAsSpdcG g cfg ext = .ok s) :
    cfg.signal.tryAsBeam ext cfg.crystal.toSetup.pmType.signalPol cfg.crystal.toSetup = .ok s.signal ∧
    (g = true → lsLeLp s.signal s.pump = false) ∧
    cfg.poling.tryAsPoling ext s.signal s.pump cfg.crystal.toSetup = .ok s.pp ∧
    thetaStep ext cfg cfg.crystal.toSetup s.signal s.pump s.pp = .ok s.crystal ∧
    idlerStep ext cfg s.signal s.pump s.crystal s.pp = .ok s.idler ∧
    waistPosition ext (idlerWaistCfg cfg) s.crystal s.idler = .ok s.idlerWaistPos ∧
    waistPosition ext cfg.signal.waistPositionUm s.crystal s.signal = .ok s.signalWaistPos ∧
    s.pump = cfg.pump.asBeam cfg.crystal.toSetup ∧
    s.pumpBandwidth = cfg.pump.bandwidthNm * nano ∧
    s.pumpAveragePower = cfg.pump.averagePowerMw * 1.0 ∧
    s.pumpSpectrumThreshold = cfg.pump.spectrumThreshold.getD 1.0e-2 ∧
    s.deff = toDeff cfg.deffPmPerVolt := by
  unfold tryAsSpdcG at h
  simp only [bind_eq_ok] at h
  obtain ⟨signal, hsig, h⟩ := h
  split at h
  · cases h
  · rename_i hg
    simp only [bind_eq_ok] at h
    obtain ⟨pp, hpp, c1, hc1, idler, hid, iwp, hiwp, swp, hswp, hs⟩ := h
    cases hs
    exact ⟨hsig, fun hgt => by simpa [hgt] using hg, hpp, hc1, hid, hiwp, hswp,
      rfl, rfl, rfl, rfl, rfl⟩

theorem tryAsSpdc_explicit {cfg : Config ℝ} {t fs fi : ℝ} {ic : BeamCfg ℝ}
    {signal idler : Beam ℝ} {pp : Poling ℝ}
    (ht : cfg.crystal.thetaDeg = .param t) (hi : cfg.idler = .param ic)
    (hfs : cfg.signal.waistPositionUm = .param fs) (hfi : ic.waistPositionUm = .param fi)
    (hsig : cfg.signal.tryAsBeam ext cfg.crystal.toSetup.pmType.signalPol cfg.crystal.toSetup
      = .ok signal)
    (hg : lsLeLp signal (cfg.pump.asBeam cfg.crystal.toSetup) = false)
    (hpp : cfg.poling.tryAsPoling ext signal (cfg.pump.asBeam cfg.crystal.toSetup)
      cfg.crystal.toSetup = .ok pp)
    (hid : ic.tryAsBeam ext cfg.crystal.toSetup.pmType.idlerPol cfg.crystal.toSetup = .ok idler) :
    tryAsSpdc cfg ext = .ok
      { crystal := cfg.crystal.toSetup, signal := signal, idler := idler,
        pump := cfg.pump.asBeam cfg.crystal.toSetup,
        pumpBandwidth := cfg.pump.bandwidthNm * nano,
        pumpAveragePower := cfg.pump.averagePowerMw * 1.0,
        pumpSpectrumThreshold := cfg.pump.spectrumThreshold.getD 1.0e-2, pp := pp,
        signalWaistPos := -(Transc.abs fs) * micro, idlerWaistPos := -(Transc.abs fi) * micro,
        deff := toDeff cfg.deffPmPerVolt } := by
  simp only [tryAsSpdc, tryAsSpdcG, hsig, bind_ok, Bool.true_and, hg, Bool.false_eq_true, if_false,
    hpp, thetaStep, ht, Auto.isAuto, idlerStep, hi, hid, idlerWaistCfg, hfi, hfs, waistPosition]

theorem thetaStep_ok {cfg : Config ℝ} {c0 c1 : Crystal ℝ} {signal pump : Beam ℝ}
    {pp : Poling ℝ} (h : thetaStep ext cfg c0 signal pump pp = .ok c1) :
    (cfg.crystal.thetaDeg.isAuto = false ∧ c1 = c0) ∨
    (cfg.crystal.thetaDeg.isAuto = true ∧ pp.isOff = true ∧
      ∃ th, optimumTheta ext c0 signal pump = .ok th ∧ c1 = { c0 with theta := th }) := by
  unfold thetaStep at h
  split at h
  · rename_i ha
    split at h
    · rename_i hp
      rw [map_eq_ok] at h
      obtain ⟨th, hth, rfl⟩ := h
      exact Or.inr ⟨ha, hp, th, hth, rfl⟩
    · cases h
  · rename_i ha
    cases h
    exact Or.inl ⟨by simpa using ha, rfl⟩

theorem poling_new_not_off (p : ℝ) (a : Apod ℝ) : (Poling.new p a).isOff = false := rfl

theorem tryAsPoling_off_iff {pc : PolingCfg ℝ} {signal pump : Beam ℝ} {c : Crystal ℝ}
    {pp : Poling ℝ} (h : pc.tryAsPoling ext signal pump c = .ok pp) :
    pp.isOff = true ↔ pc = .off := by
  unfold PolingCfg.tryAsPoling at h
  split at h
  · cases h; simp [Poling.isOff]
  · obtain ⟨_, _, rfl⟩ := map_eq_ok.mp h; simp [poling_new_not_off]
  · obtain ⟨_, _, rfl⟩ := map_eq_ok.mp h; simp [poling_new_not_off]

end Cfg
end Spdc
