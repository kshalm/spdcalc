import Spdc.Model.Singles
import Spdc.Real.Inst
/-!
The singles integrand over ℝ (C08-T4): with a collinear signal and no pump walk-off the coefficients that couple
`z₁` and `z₂` vanish and the numerator of the integrand is the pure phase `exp(i·L·Δk·(z₁−z₂)/2)`.
-/
namespace Spdc.Singles

@[simp] theorem toC_I : (I : Cx ℝ).toC = Complex.I := by
  apply Complex.ext <;> simp [I, Cx.toC, lit_zero, lit_one]
@[simp] theorem toC_csq (z : Cx ℝ) : (csq z).toC = z.toC * z.toC := by simp [csq]
@[simp] theorem toC_raddc (s : ℝ) (z : Cx ℝ) : (raddc s z).toC = (s : ℂ) + z.toC := by
  apply Complex.ext <;> simp [raddc, Cx.toC]
@[simp] theorem toC_caddr (z : Cx ℝ) (s : ℝ) : (caddr z s).toC = z.toC + (s : ℂ) := by
  apply Complex.ext <;> simp [caddr, Cx.toC]
@[simp] theorem toC_csubr (z : Cx ℝ) (s : ℝ) : (csubr z s).toC = z.toC - (s : ℂ) := by
  apply Complex.ext <;> simp [csubr, Cx.toC]
@[simp] theorem toC_rdivc (s : ℝ) (z : Cx ℝ) : (rdivc s z).toC = (s : ℂ) / z.toC := by
  apply Complex.ext <;>
    simp [rdivc, Cx.toC, Cx.normSq, Complex.div_re, Complex.div_im, Complex.normSq_apply, lit_zero]

/-- `h3`, `hl`/`hl2`, `hg`: the tilt coefficient `α₃`, the walk-off length `L·tan ρ` and `Γ₄` vanish -/
theorem numerator_of (c : Coef ℝ) (h3 : c.alpha3 = ⟨0, 0⟩) (hl : c.lRho = 0) (hl2 : c.lRhoSq = 0)
    (hg : c.gam4s = 0) (z1 z2 : ℝ) :
    ((numDen c z1 z2).1).toC = Complex.exp (((1 / 2 * c.c3 * (z1 - z2) : ℝ) : ℂ) * Complex.I) := by
  unfold numDen
  simp only [Cx.toC_exp, Cx.toC_add, Cx.toC_sub, Cx.toC_div, Cx.toC_neg, Cx.toC_smul, Cx.toC_muls, Cx.toC_mul,
    Cx.toC_conj, toC_csq, toC_raddc, toC_rdivc, toC_csubr, toC_caddr, toC_I, h3, hl, hl2, hg, Cx.toC_mk_zero,
    lit_half, lit_two, lit_quarter, lit_zero, lit_four]
  congr 1
  -- the zeros annihilate `GG`, `HH`, `IIrho`, `IIgam`; what is left is `IIdelk`
  simp only [map_zero, zero_div, zero_mul, mul_zero, add_zero, zero_add, neg_zero, sub_zero,
    Complex.ofReal_zero]
  push_cast
  ring

/-- `C₃ = L·Δk` with `Δk = k_p − (±k_s ± k_i + k_eff)` -/
theorem coef_collinear (p : SinglesIn ℝ) (hθ : p.thetaS = 0) (hθe : p.thetaSe = 0)
    (hρ : Real.tan p.rho = 0) :
    (coef p).alpha3 = ⟨0, 0⟩ ∧ (coef p).lRho = 0 ∧ (coef p).lRhoSq = 0 ∧ (coef p).gam4s = 0 ∧
    (coef p).c3 = p.len * (p.kp - (p.signKs * p.ksAbs + p.signKi * p.kiAbs + p.keff)) := by
  simp only [coef, hθ, hθe, hρ, Transc.sin, Transc.tan, Real.sin_zero, Real.tan_zero, mul_zero, zero_mul,
    neg_zero, sub_zero, add_zero, and_self]

end Spdc.Singles
