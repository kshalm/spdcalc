import Spdc.Model.Index
import Spdc.Real.Inst
import Mathlib.Tactic.Linarith
import Mathlib.Tactic.Ring
import Mathlib.Tactic.FieldSimp
import Mathlib.Tactic.Positivity
import Mathlib.Tactic.LinearCombination
import Mathlib.Analysis.SpecialFunctions.Sqrt
import Mathlib.Analysis.SpecialFunctions.Trigonometric.Deriv
/-!
The index model over ℝ (C02).  `specInvSq B C ·` is the ordered root pair of `x² − Bx + C`; only its first few
lemmas see the square root.  The coefficients `fresnelB`, `fresnelC` of eq. (11) are means, weighted by the
squared direction cosines, of the pair sums and pair products of the `bᵢ = 1/nᵢ²`, so that the quadratic is the
cleared wave-normal equation; its sign at and beyond the `bᵢ` gives real roots and the bounds.

"eq. (11)", here and in `Props/C02.lean`, is the crate's own label (`// Equation (11)` in
`CrystalSetup::index_along`, `src/crystal/crystal_setup.rs`) for the quadratic in `1/n²` of the NIST note
that function follows: physics.nist.gov/Divisions/Div844/publications/migdall/phasematch.pdf.
-/
namespace Spdc.Index

theorem specInvSq_ord (B C : ℝ) :
    specInvSq B C .ordinary = (B - Real.sqrt (B * B - 4 * C)) / 2 := by
  simp only [specInvSq, Transc.sqrt, lit_four, lit_two]

theorem specInvSq_ext (B C : ℝ) :
    specInvSq B C .extraordinary = (B + Real.sqrt (B * B - 4 * C)) / 2 := by
  simp only [specInvSq, Transc.sqrt, lit_four, lit_two]

theorem specInvSq_add (B C : ℝ) :
    specInvSq B C .ordinary + specInvSq B C .extraordinary = B := by
  rw [specInvSq_ord, specInvSq_ext]; ring

theorem specInvSq_mul (B C : ℝ) (hd : 0 ≤ B * B - 4 * C) :
    specInvSq B C .ordinary * specInvSq B C .extraordinary = C := by
  rw [specInvSq_ord, specInvSq_ext]
  linear_combination (-1 / 4 : ℝ) * Real.mul_self_sqrt hd

theorem specInvSq_ord_le_ext (B C : ℝ) : specInvSq B C .ordinary ≤ specInvSq B C .extraordinary := by
  rw [specInvSq_ord, specInvSq_ext]; linarith [Real.sqrt_nonneg (B * B - 4 * C)]

theorem quad_factor (B C : ℝ) (hd : 0 ≤ B * B - 4 * C) (x : ℝ) :
    x * x - x * B + C = (x - specInvSq B C .ordinary) * (x - specInvSq B C .extraordinary) := by
  linear_combination x * specInvSq_add B C - specInvSq_mul B C hd

theorem specInvSq_of_roots (a b : ℝ) :
    specInvSq (a + b) (a * b) .ordinary = min a b ∧
    specInvSq (a + b) (a * b) .extraordinary = max a b := by
  have hd : (a + b) * (a + b) - 4 * (a * b) = (a - b) ^ 2 := by ring
  rw [specInvSq_ord, specInvSq_ext, hd, Real.sqrt_sq_eq_abs]
  rcases le_total a b with h | h
  · rw [abs_of_nonpos (sub_nonpos.mpr h), min_eq_left h, max_eq_right h]
    constructor <;> ring
  · rw [abs_of_nonneg (sub_nonneg.mpr h), min_eq_right h, max_eq_left h]
    constructor <;> ring

theorem specInvSqClamped_eq (B C : ℝ) (hd : 0 ≤ B * B - 4 * C) (pol : Pol) :
    specInvSqClamped B C pol = specInvSq B C pol := by
  simp only [specInvSqClamped, specInvSq, lit_four, lit_zero, if_neg (not_lt.mpr hd)]

theorem fresnelB_eq (s2 b : Vec3 ℝ) :
    fresnelB s2 b = s2.x * (b.y + b.z) + s2.y * (b.x + b.z) + s2.z * (b.x + b.y) := rfl
theorem fresnelC_eq (s2 b : Vec3 ℝ) :
    fresnelC s2 b = s2.x * (b.y * b.z) + s2.y * (b.x * b.z) + s2.z * (b.x * b.y) := rfl

/-- Fresnel's wave-normal equation `Σ sᵢ²/(x − bᵢ) = 0` in `x = 1/n²`, denominators cleared -/
def fresnelCleared (s2 b : Vec3 ℝ) (x : ℝ) : ℝ :=
  s2.x * ((x - b.y) * (x - b.z)) + s2.y * ((x - b.x) * (x - b.z)) + s2.z * ((x - b.x) * (x - b.y))

theorem fresnel_fraction_form (s2 b : Vec3 ℝ) (x : ℝ) (hx : x ≠ b.x) (hy : x ≠ b.y) (hz : x ≠ b.z) :
    s2.x / (x - b.x) + s2.y / (x - b.y) + s2.z / (x - b.z) = 0 ↔ fresnelCleared s2 b x = 0 := by
  have h1 : x - b.x ≠ 0 := sub_ne_zero.mpr hx
  have h2 : x - b.y ≠ 0 := sub_ne_zero.mpr hy
  have h3 : x - b.z ≠ 0 := sub_ne_zero.mpr hz
  rw [div_add_div _ _ h1 h2, div_add_div _ _ (mul_ne_zero h1 h2) h3, div_eq_zero_iff,
    or_iff_left (mul_ne_zero (mul_ne_zero h1 h2) h3), fresnelCleared]
  exact Eq.congr_left (by ring)

/-- eq. (11) is the cleared wave-normal equation -/
theorem fresnel_quad {s2 : Vec3 ℝ} (hsum : s2.x + s2.y + s2.z = 1) (b : Vec3 ℝ) (x : ℝ) :
    x * x - x * fresnelB s2 b + fresnelC s2 b = fresnelCleared s2 b x := by
  rw [fresnelB_eq, fresnelC_eq, fresnelCleared]
  linear_combination (-(x * x)) * hsum

theorem mid_of_three (a b c : ℝ) :
    (a - b) * (a - c) ≤ 0 ∨ (b - a) * (b - c) ≤ 0 ∨ (c - a) * (c - b) ≤ 0 := by
  by_contra h
  simp only [not_or, not_le] at h
  have hp := mul_pos (mul_pos h.1 h.2.1) h.2.2
  have e : (a - b) * (a - c) * ((b - a) * (b - c)) * ((c - a) * (c - b))
      = -((a - b) * (b - c) * (c - a)) ^ 2 := by ring
  rw [e] at hp
  linarith [sq_nonneg ((a - b) * (b - c) * (c - a))]

/-- squared direction cosines of a unit vector -/
structure UnitSq (s2 : Vec3 ℝ) : Prop where
  x : 0 ≤ s2.x
  y : 0 ≤ s2.y
  z : 0 ≤ s2.z
  sum : s2.x + s2.y + s2.z = 1

theorem unitSq_sqVec {s : Vec3 ℝ} (hs : s.normSq = 1) : UnitSq (sqVec s) :=
  ⟨mul_self_nonneg _, mul_self_nonneg _, mul_self_nonneg _, hs⟩

namespace UnitSq
variable {s2 : Vec3 ℝ} (h : UnitSq s2)
include h

theorem mean_pos {p q r : ℝ} (hp : 0 < p) (hq : 0 < q) (hr : 0 < r) :
    0 < s2.x * p + s2.y * q + s2.z * r :=
  calc 0 < min p (min q r) := lt_min hp (lt_min hq hr)
    _ = s2.x * min p (min q r) + s2.y * min p (min q r) + s2.z * min p (min q r) := by
      rw [← add_mul, ← add_mul, h.sum, one_mul]
    _ ≤ _ := add_le_add (add_le_add (mul_le_mul_of_nonneg_left (min_le_left _ _) h.x)
      (mul_le_mul_of_nonneg_left ((min_le_right _ _).trans (min_le_left _ _)) h.y))
      (mul_le_mul_of_nonneg_left ((min_le_right _ _).trans (min_le_right _ _)) h.z)

variable (b : Vec3 ℝ)

/-- for any real `bᵢ` the quadratic is `≤ 0` at the middle one of them, so it has real roots -/
theorem disc_nonneg : 0 ≤ fresnelB s2 b * fresnelB s2 b - 4 * fresnelC s2 b := by
  obtain ⟨x, hx⟩ : ∃ x, fresnelCleared s2 b x ≤ 0 := by
    rcases mid_of_three b.x b.y b.z with hm | hm | hm
    · exact ⟨b.x, by simpa [fresnelCleared] using mul_nonpos_of_nonneg_of_nonpos h.x hm⟩
    · exact ⟨b.y, by simpa [fresnelCleared] using mul_nonpos_of_nonneg_of_nonpos h.y hm⟩
    · exact ⟨b.z, by simpa [fresnelCleared] using mul_nonpos_of_nonneg_of_nonpos h.z hm⟩
  rw [← fresnel_quad h.sum] at hx
  linarith [sq_nonneg (2 * x - fresnelB s2 b)]

theorem cleared_factor (x : ℝ) :
    fresnelCleared s2 b x =
      (x - specInvSq (fresnelB s2 b) (fresnelC s2 b) .ordinary) *
      (x - specInvSq (fresnelB s2 b) (fresnelC s2 b) .extraordinary) := by
  rw [← fresnel_quad h.sum, quad_factor _ _ (h.disc_nonneg b)]

theorem cleared_root (pol : Pol) :
    fresnelCleared s2 b (specInvSq (fresnelB s2 b) (fresnelC s2 b) pol) = 0 := by
  rw [h.cleared_factor b]
  cases pol
  · rw [sub_self, zero_mul]
  · rw [sub_self, mul_zero]

theorem cleared_pos_of_lt {x : ℝ} (hx : x < b.x) (hy : x < b.y) (hz : x < b.z) :
    0 < fresnelCleared s2 b x :=
  have hx := sub_neg.mpr hx
  have hy := sub_neg.mpr hy
  have hz := sub_neg.mpr hz
  h.mean_pos (mul_pos_of_neg_of_neg hy hz) (mul_pos_of_neg_of_neg hx hz) (mul_pos_of_neg_of_neg hx hy)

theorem cleared_pos_of_gt {x : ℝ} (hx : b.x < x) (hy : b.y < x) (hz : b.z < x) :
    0 < fresnelCleared s2 b x :=
  have hx := sub_pos.mpr hx
  have hy := sub_pos.mpr hy
  have hz := sub_pos.mpr hz
  h.mean_pos (mul_pos hy hz) (mul_pos hx hz) (mul_pos hx hy)

theorem spec_le {β : ℝ} (hx : b.x ≤ β) (hy : b.y ≤ β) (hz : b.z ≤ β) (pol : Pol) :
    specInvSq (fresnelB s2 b) (fresnelC s2 b) pol ≤ β :=
  not_lt.mp fun hlt =>
    (h.cleared_pos_of_gt b (hx.trans_lt hlt) (hy.trans_lt hlt) (hz.trans_lt hlt)).ne' (h.cleared_root b pol)

theorem le_spec {β : ℝ} (hx : β ≤ b.x) (hy : β ≤ b.y) (hz : β ≤ b.z) (pol : Pol) :
    β ≤ specInvSq (fresnelB s2 b) (fresnelC s2 b) pol :=
  not_lt.mp fun hlt =>
    (h.cleared_pos_of_lt b (hlt.trans_le hx) (hlt.trans_le hy) (hlt.trans_le hz)).ne' (h.cleared_root b pol)

theorem spec_pos (hx : 0 < b.x) (hy : 0 < b.y) (hz : 0 < b.z) (pol : Pol) :
    0 < specInvSq (fresnelB s2 b) (fresnelC s2 b) pol :=
  not_le.mp fun hle =>
    (h.cleared_pos_of_lt b (hle.trans_lt hx) (hle.trans_lt hy) (hle.trans_lt hz)).ne' (h.cleared_root b pol)

end UnitSq

/-- over ℝ the divisor `find_roots_quadratic` selects (to avoid cancellation) makes no difference: by Vieta the two
quotients are `diff / a2x2` and `same / a2x2` in every branch -/
theorem root_pair (a2x2 a0x2 same diff : ℝ) (ha : a2x2 ≠ 0) (hprod : same * diff = a2x2 * a0x2) :
    (if |a2x2| < |same| then a0x2 / same else diff / a2x2) = diff / a2x2 ∧
    (if |a2x2| < |same| then (if |a2x2| < |diff| then a0x2 / diff else same / a2x2) else same / a2x2)
      = same / a2x2 := by
  have key : ∀ p q : ℝ, p * q = a2x2 * a0x2 → |a2x2| < |p| → a0x2 / p = q / a2x2 := by
    intro p q hpq hlt
    have hp : p ≠ 0 := abs_pos.mp ((abs_nonneg _).trans_lt hlt)
    rw [div_eq_div_iff hp ha]; linarith
  constructor
  · split_ifs with h1
    · exact key _ _ hprod h1
    · rfl
  · split_ifs with h1 h2
    · exact key _ _ ((mul_comm _ _).trans hprod) h2
    · rfl
    · rfl

/-- the roots of `x² + Bx + C` are the negated root pair of `x² − Bx + C` -/
theorem quadRoots_pos (B C : ℝ) (h : 0 < B * B - 4 * C) :
    quadRoots (1.0 : ℝ) B C =
      .two (-specInvSq B C .extraordinary) (-specInvSq B C .ordinary) := by
  have hsq : 0 < Real.sqrt (B * B - 4 * C) := Real.sqrt_pos.mpr h
  have hss := Real.mul_self_sqrt h.le
  unfold quadRoots
  simp only [lit_one, lit_zero, lit_two, lit_four, Transc.sqrt, Transc.abs, beq_iff_eq, one_ne_zero,
    if_false, mul_one]
  rw [if_neg (not_lt.mpr h.le), if_neg (ne_of_gt h), specInvSq_ord, specInvSq_ext]
  set s := Real.sqrt (B * B - 4 * C)
  by_cases hB : B < 0
  · simp only [hB, if_true]
    obtain ⟨e1, e2⟩ := root_pair 2 (2 * C) (-B + s) (-B - s) two_ne_zero (by linear_combination -hss)
    rw [e1, e2, if_pos (by linarith)]
    congr 1 <;> ring
  · simp only [hB, if_false]
    obtain ⟨e1, e2⟩ := root_pair 2 (2 * C) (-B - s) (-B + s) two_ne_zero (by linear_combination -hss)
    rw [e1, e2, if_neg (by linarith)]
    congr 1 <;> ring

theorem quadRoots_zero (B C : ℝ) (h : B * B - 4 * C = 0) :
    quadRoots (1.0 : ℝ) B C = .one (-B / 2) := by
  unfold quadRoots
  simp only [lit_one, lit_zero, lit_two, lit_four, beq_iff_eq, one_ne_zero, if_false, mul_one, h,
    lt_irrefl, if_true]

theorem quadRoots_neg (B C : ℝ) (h : B * B - 4 * C < 0) :
    quadRoots (1.0 : ℝ) B C = .no := by
  unfold quadRoots
  simp only [lit_one, lit_zero, lit_two, lit_four, beq_iff_eq, one_ne_zero, if_false, mul_one, h,
    if_true]

/-- `fb`: over ℝ the `Roots::No` exit of `index_along` is not taken, so its fallback value is irrelevant -/
theorem pick_eq_spec (B C : ℝ) (hd : 0 ≤ B * B - 4 * C) (pol : Pol) (fb : Option ℝ) :
    pickInvSq (quadRoots (1.0 : ℝ) B C) pol fb = some (specInvSq B C pol) := by
  rcases hd.lt_or_eq with hpos | hzero
  · rw [quadRoots_pos B C hpos]
    cases pol <;> simp only [pickInvSq, neg_neg]
  · rw [quadRoots_zero B C hzero.symm]
    cases pol <;>
      simp only [pickInvSq, specInvSq_ord, specInvSq_ext, ← hzero, Real.sqrt_zero] <;>
      congr 1 <;> ring

theorem finish_pick (B C : ℝ) (hd : 0 ≤ B * B - 4 * C) (pol : Pol) (h0 : 0 ≤ specInvSq B C pol)
    (fb : Option ℝ) :
    finishIndex (pickInvSq (quadRoots (1.0 : ℝ) B C) pol fb) = 1 / Real.sqrt (specInvSq B C pol) := by
  rw [pick_eq_spec B C hd]
  simp only [finishIndex, lit_zero, lit_one, Transc.sqrt, if_neg (not_lt.mpr h0)]

theorem toCrystalFrame_eq (θ φ : ℝ) (v : Vec3 ℝ) :
    toCrystalFrame θ φ v =
      ⟨Real.cos φ * Real.cos θ * v.x + -Real.sin φ * v.y + Real.cos φ * Real.sin θ * v.z,
       Real.sin φ * Real.cos θ * v.x + Real.cos φ * v.y + Real.sin φ * Real.sin θ * v.z,
       -Real.sin θ * v.x + Real.cos θ * v.z⟩ := by
  simp only [toCrystalFrame, fromEulerAngles, Mat3.mulVec, Transc.sin, Transc.cos, lit_zero,
    Real.sin_zero, Real.cos_zero, mul_zero, mul_one, zero_sub, add_zero, zero_add, sub_zero, zero_mul]

theorem toCrystalFrame_normSq (θ φ : ℝ) (v : Vec3 ℝ) :
    (toCrystalFrame θ φ v).normSq = v.normSq := by
  rw [toCrystalFrame_eq]
  simp only [Vec3.normSq, Vec3.dot]
  have h1 := Real.sin_sq_add_cos_sq θ
  have h2 := Real.sin_sq_add_cos_sq φ
  linear_combination
    (v.x ^ 2 + v.z ^ 2) * h1 +
    ((Real.cos θ * v.x + Real.sin θ * v.z) ^ 2 + v.y ^ 2) * h2

theorem invSq_eq (n : Vec3 ℝ) : invSq n = ⟨1 / (n.x * n.x), 1 / (n.y * n.y), 1 / (n.z * n.z)⟩ := by
  simp only [invSq, lit_one]

theorem one_div_sqrt_one_div_sq {m : ℝ} (hm : 0 < m) : 1 / Real.sqrt (1 / (m * m)) = m := by
  rw [one_div, one_div, Real.sqrt_inv, Real.sqrt_mul_self hm.le, inv_inv]

theorem one_div_sq_one_div_sqrt {x : ℝ} (hx : 0 < x) : 1 / ((1 / Real.sqrt x) * (1 / Real.sqrt x)) = x := by
  rw [← one_div_mul_one_div, one_div_one_div, Real.mul_self_sqrt hx.le]

theorem one_div_sqrt_anti {x y : ℝ} (hx : 0 < x) (hxy : x ≤ y) : 1 / Real.sqrt y ≤ 1 / Real.sqrt x :=
  one_div_le_one_div_of_le (Real.sqrt_pos.mpr hx) (Real.sqrt_le_sqrt hxy)

theorem recip_sq_le {a b : ℝ} (ha : 0 < a) (hab : a ≤ b) : 1 / (b * b) ≤ 1 / (a * a) :=
  one_div_le_one_div_of_le (mul_pos ha ha) (mul_self_le_mul_self ha.le hab)

theorem recip_sq_lt_iff {a b : ℝ} (ha : 0 < a) (hb : 0 < b) : 1 / (b * b) < 1 / (a * a) ↔ a < b := by
  rw [one_div_lt_one_div (mul_pos hb hb) (mul_pos ha ha), ← mul_self_lt_mul_self_iff ha.le hb.le]

theorem indexFromFrameSpec_eq (n s : Vec3 ℝ) (pol : Pol) :
    indexFromFrameSpec n s pol =
      1 / Real.sqrt (specInvSq (fresnelB (sqVec s) (invSq n)) (fresnelC (sqVec s) (invSq n)) pol) := by
  simp only [indexFromFrameSpec, lit_one, Transc.sqrt]

section
variable {n s : Vec3 ℝ} (hx : 0 < n.x) (hy : 0 < n.y) (hz : 0 < n.z) (hs : s.normSq = 1)
include hx hy hz hs

theorem indexFromFrameSpec_radicand_pos (pol : Pol) :
    0 < specInvSq (fresnelB (sqVec s) (invSq n)) (fresnelC (sqVec s) (invSq n)) pol := by
  rw [invSq_eq]
  exact (unitSq_sqVec hs).spec_pos _ (one_div_pos.mpr (mul_pos hx hx)) (one_div_pos.mpr (mul_pos hy hy))
    (one_div_pos.mpr (mul_pos hz hz)) pol

theorem indexFromFrame_eq_spec (pol : Pol) : indexFromFrame n s pol = indexFromFrameSpec n s pol := by
  rw [indexFromFrameSpec_eq]
  exact finish_pick _ _ ((unitSq_sqVec hs).disc_nonneg _) pol (indexFromFrameSpec_radicand_pos hx hy hz hs pol).le _

theorem indexFromFrameSpec_ge (pol : Pol) {m : ℝ} (hm : 0 < m) (mx : m ≤ n.x) (my : m ≤ n.y)
    (mz : m ≤ n.z) : m ≤ indexFromFrameSpec n s pol := by
  rw [indexFromFrameSpec_eq, ← one_div_sqrt_one_div_sq hm]
  refine one_div_sqrt_anti (indexFromFrameSpec_radicand_pos hx hy hz hs pol) ?_
  rw [invSq_eq]
  exact (unitSq_sqVec hs).spec_le _ (recip_sq_le hm mx) (recip_sq_le hm my) (recip_sq_le hm mz) pol

theorem indexFromFrameSpec_le (pol : Pol) {M : ℝ} (mx : n.x ≤ M) (my : n.y ≤ M) (mz : n.z ≤ M) :
    indexFromFrameSpec n s pol ≤ M := by
  have hM : 0 < M := hx.trans_le mx
  rw [indexFromFrameSpec_eq, ← one_div_sqrt_one_div_sq hM]
  refine one_div_sqrt_anti (one_div_pos.mpr (mul_pos hM hM)) ?_
  rw [invSq_eq]
  exact (unitSq_sqVec hs).le_spec _ (recip_sq_le hx mx) (recip_sq_le hy my) (recip_sq_le hz mz) pol

theorem indexFromFrameSpec_order :
    indexFromFrameSpec n s .extraordinary ≤ indexFromFrameSpec n s .ordinary := by
  rw [indexFromFrameSpec_eq, indexFromFrameSpec_eq]
  exact one_div_sqrt_anti (indexFromFrameSpec_radicand_pos hx hy hz hs _) (specInvSq_ord_le_ext _ _)

theorem indexFromFrameSpec_pos (pol : Pol) : 0 < indexFromFrameSpec n s pol := by
  rw [indexFromFrameSpec_eq]
  exact one_div_pos.mpr (Real.sqrt_pos.mpr (indexFromFrameSpec_radicand_pos hx hy hz hs pol))

end

/-- Vieta: the roots are `b_o` and `b_θ = w·b_o + (1−w)·b_e` -/
theorem uniaxial_coeffs (s2 : Vec3 ℝ) (bo be : ℝ) (hsum : s2.x + s2.y + s2.z = 1) :
    fresnelB s2 ⟨bo, bo, be⟩ = bo + (s2.z * bo + (1 - s2.z) * be) ∧
    fresnelC s2 ⟨bo, bo, be⟩ = bo * (s2.z * bo + (1 - s2.z) * be) := by
  rw [fresnelB_eq, fresnelC_eq]
  constructor
  · linear_combination (bo + be) * hsum
  · linear_combination (bo * be) * hsum

theorem le_convex {w a b : ℝ} (hw : w ≤ 1) (hab : a ≤ b) : a ≤ w * a + (1 - w) * b := by
  linarith [mul_nonneg (sub_nonneg.mpr hw) (sub_nonneg.mpr hab)]

theorem convex_le {w a b : ℝ} (hw : w ≤ 1) (hab : b ≤ a) : w * a + (1 - w) * b ≤ a := by
  linarith [mul_nonneg (sub_nonneg.mpr hw) (sub_nonneg.mpr hab)]

theorem uniaxialIndex_eq (no ne θ : ℝ) :
    uniaxialIndex no ne θ =
      1 / Real.sqrt (Real.cos θ * Real.cos θ / (no * no) + Real.sin θ * Real.sin θ / (ne * ne)) := by
  simp only [uniaxialIndex, lit_one, Transc.sqrt, Transc.cos, Transc.sin]

theorem walkoffExact_eq (no ne θ : ℝ) :
    walkoffExact no ne θ = Real.arctan (1 / 2 * (uniaxialIndex no ne θ * uniaxialIndex no ne θ) *
      (1 / (ne * ne) - 1 / (no * no)) * Real.sin (2 * θ)) := by
  simp only [walkoffExact, Transc.atan, Transc.sin, lit_half, lit_one, lit_two]

theorem btheta_angle (s : Vec3 ℝ) (no ne ψ : ℝ) (hψ : s.z = Real.cos ψ) :
    (sqVec s).z * (1 / (no * no)) + (1 - (sqVec s).z) * (1 / (ne * ne))
      = Real.cos ψ * Real.cos ψ / (no * no) + Real.sin ψ * Real.sin ψ / (ne * ne) := by
  simp only [sqVec, hψ]
  linear_combination (-(1 / (ne * ne))) * Real.sin_sq_add_cos_sq ψ

theorem uniaxialIndex_radicand_pos (no ne θ : ℝ) (hno : 0 < no) (hne : 0 < ne) :
    0 < Real.cos θ * Real.cos θ / (no * no) + Real.sin θ * Real.sin θ / (ne * ne) := by
  by_cases hc : Real.cos θ = 0
  · have hs : Real.sin θ ≠ 0 := fun hs => by
      have := Real.sin_sq_add_cos_sq θ
      rw [hc, hs] at this; norm_num at this
    exact add_pos_of_nonneg_of_pos (div_nonneg (mul_self_nonneg _) (mul_self_nonneg _))
      (div_pos (mul_self_pos.mpr hs) (mul_pos hne hne))
  · exact add_pos_of_pos_of_nonneg (div_pos (mul_self_pos.mpr hc) (mul_pos hno hno))
      (div_nonneg (mul_self_nonneg _) (mul_self_nonneg _))

theorem uniaxialIndex_pos (no ne θ : ℝ) (hno : 0 < no) (hne : 0 < ne) : 0 < uniaxialIndex no ne θ := by
  rw [uniaxialIndex_eq]
  exact one_div_pos.mpr (Real.sqrt_pos.mpr (uniaxialIndex_radicand_pos no ne θ hno hne))

theorem uniaxialIndex_hasDerivAt (no ne θ : ℝ) (hno : 0 < no) (hne : 0 < ne) :
    HasDerivAt (uniaxialIndex no ne)
      (-(uniaxialIndex no ne θ) * (1 / 2 * (uniaxialIndex no ne θ * uniaxialIndex no ne θ) *
        (1 / (ne * ne) - 1 / (no * no)) * Real.sin (2 * θ))) θ := by
  have hfun : uniaxialIndex no ne = fun t =>
      (Real.sqrt (Real.cos t * Real.cos t / (no * no) + Real.sin t * Real.sin t / (ne * ne)))⁻¹ := by
    funext t; rw [uniaxialIndex_eq, one_div]
  have hg := uniaxialIndex_radicand_pos no ne θ hno hne
  have hG : HasDerivAt
      (fun t => Real.cos t * Real.cos t / (no * no) + Real.sin t * Real.sin t / (ne * ne))
      ((-Real.sin θ * Real.cos θ + Real.cos θ * -Real.sin θ) / (no * no) +
        (Real.cos θ * Real.sin θ + Real.sin θ * Real.cos θ) / (ne * ne)) θ :=
    (((Real.hasDerivAt_cos θ).mul (Real.hasDerivAt_cos θ)).div_const _).add
      (((Real.hasDerivAt_sin θ).mul (Real.hasDerivAt_sin θ)).div_const _)
  simp only [hfun]
  refine ((hG.sqrt hg.ne').inv (Real.sqrt_pos.mpr hg).ne').congr_deriv ?_
  -- `g` is made opaque so that `field_simp` stays out of the square root: what is left is field algebra in `√g`
  set g := Real.cos θ * Real.cos θ / (no * no) + Real.sin θ * Real.sin θ / (ne * ne)
  have hq : Real.sqrt g ≠ 0 := (Real.sqrt_pos.mpr hg).ne'
  have hno' := hno.ne'
  have hne' := hne.ne'
  rw [Real.sin_two_mul]
  field_simp
  ring

theorem isFinite_eq_true (x : ℝ) : isFinite x = true := by
  simp only [isFinite, sub_self, lit_zero, beq_self_eq_true]

/-- over ℝ the central difference never trips its two `assert!`s -/
theorem derivativeAt_isOk (f : ℝ → ℝ) (x : ℝ) : ∃ d, derivativeAt f x = .ok d := by
  simp only [derivativeAt, isFinite_eq_true, Bool.not_true, Bool.false_eq_true, if_false]
  exact ⟨_, rfl⟩

theorem walkoff_isOk (n : Vec3 ℝ) (θ φ : ℝ) (d : Vec3 ℝ) (pol : Pol) :
    ∃ ρ, walkoff n θ φ d pol = .ok ρ := by
  obtain ⟨d', hd'⟩ := derivativeAt_isOk (fun t => indexAlong n t φ d pol) θ
  exact ⟨_, by rw [walkoff, hd']; rfl⟩

end Spdc.Index
