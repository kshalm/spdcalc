import Spdc.Model.Crystals
import Spdc.Real.Inst
import Mathlib.Tactic.NormNum
import Mathlib.Tactic.Ring
import Mathlib.Tactic.Linarith
import Mathlib.Tactic.Positivity
import Mathlib.Tactic.FieldSimp
import Mathlib.Analysis.Real.Sqrt
import Mathlib.Order.Monotone.Basic
import Mathlib.Order.Interval.Set.Basic
/-!
C01: each coded Sellmeier shape is a `pole2` in `x = λ²`, hence strictly decreasing in the wavelength between
the poles; `GoodOn` is what the per-axis lemmas of `CrystalAxes.lean` establish.
-/
namespace Spdc.Crystals

/-- reference temperature of the linear thermo-optic laws: 20 °C in kelvin -/
noncomputable def Tref : ℝ := 293.15
/-- reference temperature of the LiNb_MgO law (Gayer et al.): 24.5 °C in kelvin -/
noncomputable def TrefMgO : ℝ := 297.65
/-- lower end of the statement's temperature range −50 … 200 °C, in kelvin -/
noncomputable def Tmin : ℝ := 223.15
/-- upper end of that range: 200 °C in kelvin -/
noncomputable def Tmax : ℝ := 473.15

open Set

/-- The form every Sellmeier equation of the crate takes in `x = λ²` (C01-T1): a pole `c` below the
window with numerator `p`, a pole `C` above it with numerator `q`, and a linear term. -/
def pole2 {α : Type} [Add α] [Sub α] [Mul α] [Div α] (A p c q C D x : α) : α :=
  A + p / (x - c) + q / (x - C) - D * x

/-- between the poles `pole2` is monotone in `A, p, c` and antitone in `q, x`; `C, D` are shared -/
theorem pole2_mono {A A' p p' c c' q q' C D x x' : ℝ} (hA : A ≤ A') (hp0 : 0 ≤ p) (hp : p ≤ p')
    (hc : c ≤ c') (hcx : c' < x') (hq0 : 0 ≤ q') (hq : q' ≤ q) (hxC : x < C) (hx : x' ≤ x)
    (hD : 0 ≤ D) : pole2 A p c q C D x ≤ pole2 A' p' c' q' C D x' := by
  have t2 : p / (x - c) ≤ p' / (x' - c') :=
    div_le_div₀ (hp0.trans hp) hp (sub_pos.2 hcx) (by linarith)
  have t3 : q / (x - C) ≤ q' / (x' - C) := by
    rw [← neg_sub C x, ← neg_sub C x', div_neg, div_neg, neg_le_neg_iff]
    exact div_le_div₀ (hq0.trans hq) hq (sub_pos.2 hxC) (by linarith)
  have t4 := mul_le_mul_of_nonneg_left hx hD
  simp only [pole2]
  linarith

theorem pole2_anti {A p c q C D a b : ℝ} (hp : 0 < p) (hq : 0 ≤ q) (hD : 0 ≤ D) (ha : 0 < a)
    (hc : c < a * a) (hC : b * b < C) :
    StrictAntiOn (fun l => pole2 A p c q C D (l * l)) (Icc a b) := by
  intro l hl l' hl' hll'
  have hx : a * a ≤ l * l := mul_self_le_mul_self ha.le hl.1
  have hxy : l * l < l' * l' := mul_self_lt_mul_self (ha.le.trans hl.1) hll'
  have hy : l' * l' ≤ b * b := mul_self_le_mul_self (ha.le.trans hl'.1) hl'.2
  have h1 : p / (l' * l' - c) < p / (l * l - c) :=
    div_lt_div_of_pos_left hp (by linarith) (by linarith)
  -- the lower pole's term goes down strictly, the rest (`pole2_mono` with `A = p = 0`) weakly
  have h2 := pole2_mono (A := 0) (p := 0) (c := c) (q := q) (D := D) le_rfl le_rfl le_rfl le_rfl
    (hc.trans_le hx) hq le_rfl (hy.trans_lt hC) hxy.le hD
  simp only [pole2, zero_div] at h2 ⊢
  linarith

theorem mul_div_sub_eq {B C x : ℝ} (h : x - C ≠ 0) : B * x / (x - C) = B + B * C / (x - C) := by
  field_simp; ring

/-! A shape with a single pole has `q = 0`, and the place `C'` of the absent upper pole is free. -/
section shapes
variable {A B C D P C1 C2 B1 B2 c1 c2 x l a b : ℝ}

theorem sellA_pole2 (C' : ℝ) : sellA A P C D x = pole2 A P C 0 C' D x := by simp [pole2, sellA]

theorem sellP_pole2 (C' : ℝ) : sellP A P C x = pole2 A P C 0 C' 0 x := by simp [pole2, sellP]

theorem sellB_pole2 (C' : ℝ) (h : x ≠ C) :
    sellB A B C D x = pole2 (A + B) (B * C) C 0 C' D x := by
  simp only [pole2, sellB, mul_div_sub_eq (sub_ne_zero.2 h), zero_div]; ring

theorem sellK_pole2 (h : x ≠ C1) : sellK A B C1 P C2 x = pole2 (A + B) P C2 (B * C1) C1 0 x := by
  simp only [pole2, sellK, mul_div_sub_eq (sub_ne_zero.2 h)]; ring

theorem sellStd_pole2 (h1 : x ≠ c1) (h2 : x ≠ c2) :
    sellStd A B1 B2 0.0 c1 c2 0.0 x = pole2 (A + B1 + B2) (B1 * c1) c1 (B2 * c2) c2 0 x := by
  simp only [pole2, sellStd, lit_zero, zero_div, add_zero, add_mul, div_mul_eq_mul_div,
    mul_div_sub_eq (sub_ne_zero.2 h1), mul_div_sub_eq (sub_ne_zero.2 h2)]
  ring

/-- AgGaSe2: `B/(1 − (c/l)²)` is a pole at `x = c²` -/
theorem sellInv_pole2 (h0 : l ≠ 0) (h1 : l * l ≠ c1 * c1) (h2 : l * l ≠ c2 * c2) :
    sellInv A B1 c1 B2 c2 l =
      pole2 (A + B1 + B2) (B1 * (c1 * c1)) (c1 * c1) (B2 * (c2 * c2)) (c2 * c2) 0 (l * l) := by
  have d : ∀ c : ℝ, (1 : ℝ) - c / l * (c / l) = (l * l - c * c) / (l * l) := fun c => by field_simp
  simp only [pole2, sellInv, sqr, lit_one, d, div_div_eq_mul_div, mul_div_sub_eq (sub_ne_zero.2 h1),
    mul_div_sub_eq (sub_ne_zero.2 h2)]
  ring

theorem sq_ne_of_lt (ha : 0 < a) (hl : l ∈ Icc a b) (hC : C < a * a) : l * l ≠ C :=
  (hC.trans_le (mul_self_le_mul_self ha.le hl.1)).ne'

theorem sq_ne_of_gt (ha : 0 < a) (hl : l ∈ Icc a b) (hC : b * b < C) : l * l ≠ C :=
  ((mul_self_le_mul_self (ha.le.trans hl.1) hl.2).trans_lt hC).ne

theorem sellA_anti (hP : 0 < P) (hD : 0 ≤ D) (ha : 0 < a) (hC : C < a * a) :
    StrictAntiOn (fun l => sellA A P C D (sqr l)) (Icc a b) :=
  (pole2_anti hP le_rfl hD ha hC (lt_add_one _)).congr fun _ _ => (sellA_pole2 _).symm

theorem sellP_anti (hP : 0 < P) (ha : 0 < a) (hC : C < a * a) :
    StrictAntiOn (fun l => sellP A P C (sqr l)) (Icc a b) :=
  (pole2_anti hP le_rfl le_rfl ha hC (lt_add_one _)).congr fun _ _ => (sellP_pole2 _).symm

theorem sellB_anti (hB : 0 < B) (hC0 : 0 < C) (hD : 0 ≤ D) (ha : 0 < a) (hC : C < a * a) :
    StrictAntiOn (fun l => sellB A B C D (sqr l)) (Icc a b) :=
  (pole2_anti (mul_pos hB hC0) le_rfl hD ha hC (lt_add_one _)).congr fun _ hl =>
    (sellB_pole2 _ (sq_ne_of_lt ha hl hC)).symm

theorem sellK_anti (hB : 0 < B) (hC1 : 0 < C1) (hP : 0 < P) (ha : 0 < a) (hC2 : C2 < a * a)
    (hb : b * b < C1) : StrictAntiOn (fun l => sellK A B C1 P C2 (sqr l)) (Icc a b) :=
  (pole2_anti hP (mul_pos hB hC1).le le_rfl ha hC2 hb).congr fun _ hl =>
    (sellK_pole2 (sq_ne_of_gt ha hl hb)).symm

/-- standard three-pole shape with the third pole unused (`b3 = c3 = 0`) -/
theorem sellStd_anti (hb1 : 0 < B1) (hb2 : 0 < B2) (hc1 : 0 < c1) (hc2 : 0 < c2) (ha : 0 < a)
    (hC1 : c1 < a * a) (hC2 : b * b < c2) :
    StrictAntiOn (fun l => sellStd A B1 B2 0.0 c1 c2 0.0 (l * l)) (Icc a b) :=
  (pole2_anti (mul_pos hb1 hc1) (mul_pos hb2 hc2).le le_rfl ha hC1 hC2).congr fun _ hl =>
    (sellStd_pole2 (sq_ne_of_lt ha hl hC1) (sq_ne_of_gt ha hl hC2)).symm

theorem sellInv_anti (hB1 : 0 < B1) (hB2 : 0 < B2) (hc1 : 0 < c1) (hc2 : 0 < c2) (ha : 0 < a)
    (hC1 : c1 * c1 < a * a) (hC2 : b * b < c2 * c2) :
    StrictAntiOn (fun l => sellInv A B1 c1 B2 c2 l) (Icc a b) :=
  (pole2_anti (mul_pos hB1 (mul_pos hc1 hc1)) (mul_pos hB2 (mul_pos hc2 hc2)).le le_rfl ha hC1
    hC2).congr fun _ hl => (sellInv_pole2 (ha.trans_le hl.1).ne' (sq_ne_of_lt ha hl hC1)
      (sq_ne_of_gt ha hl hC2)).symm

theorem sellG_anti {a1 a2 a3 a4 a5 a6 b1 b2 b3 b4 F : ℝ} (hP1 : 0 < a2 + b2 * F)
    (hP2 : 0 < a4 + b4 * F) (h6 : 0 ≤ a6) (ha : 0 < a) (hC1 : sqr (a3 + b3 * F) < a * a)
    (hC2 : b * b < sqr a5) :
    StrictAntiOn (fun l => sellG a1 a2 a3 a4 a5 a6 b1 b2 b3 b4 F (sqr l)) (Icc a b) :=
  -- no `congr`: `sellG` unfolds to `pole2` of the Gayer coefficients at `F`
  pole2_anti hP1 hP2.le h6 ha hC1 hC2

end shapes

/-- window ends in µm -/
noncomputable def lLo : Crystal → ℝ
  | .BBO_1 => 0.189 | .KTP => 0.35 | .BiBO_1 => 0.286 | .LiNbO3_1 => 0.4 | .LiNb_MgO => 0.44
  | .KDP_1 => 0.2 | .AgGaSe2_1 => 1 | .AgGaSe2_2 => 1 | .LiIO3_2 => 0.3 | .LiIO3_1 => 0.3
  | .AgGaS2_1 => 0.5
noncomputable def lHi : Crystal → ℝ
  | .BBO_1 => 3.5 | .KTP => 3.5 | .BiBO_1 => 2.5 | .LiNbO3_1 => 3.4 | .LiNb_MgO => 4
  | .KDP_1 => 1.5 | .AgGaSe2_1 => 13.5 | .AgGaSe2_2 => 13.5 | .LiIO3_2 => 5 | .LiIO3_1 => 5
  | .AgGaS2_1 => 13

theorem Crystal.mem_all (c : Crystal) : c ∈ Crystal.all := by cases c <;> decide

theorem microns_windowLo (c : Crystal) : microns (windowLo (α := ℝ) c) = lLo c := by
  cases c <;> simp only [microns, windowLo, lLo] <;> norm_num
theorem microns_windowHi (c : Crystal) : microns (windowHi (α := ℝ) c) = lHi c := by
  cases c <;> simp only [microns, windowHi, lHi] <;> norm_num
theorem microns_strictMono : StrictMono (microns (α := ℝ)) := by
  intro a b h
  simp only [microns]
  exact div_lt_div_of_pos_right h (by norm_num)

/-- a squared-index function that is strictly decreasing on `[a,b]` with values whose square roots
stay in `(1.03, 3.97)` (room for the thermo-optic term, at most 0.03 in modulus) -/
structure GoodOn (f : ℝ → ℝ) (a b : ℝ) : Prop where
  anti : StrictAntiOn f (Icc a b)
  le : a ≤ b
  lo : (1.0609 : ℝ) < f b
  hi : f a < (15.7609 : ℝ)

theorem GoodOn.bounds {f : ℝ → ℝ} {a b l : ℝ} (h : GoodOn f a b) (hl : l ∈ Icc a b) :
    (1.0609 : ℝ) < f l ∧ f l < (15.7609 : ℝ) :=
  ⟨h.lo.trans_le (h.anti.antitoneOn hl (right_mem_Icc.2 h.le) hl.2),
    (h.anti.antitoneOn (left_mem_Icc.2 h.le) hl hl.1).trans_lt h.hi⟩

theorem GoodOn.sqrt_bounds {f : ℝ → ℝ} {a b l : ℝ} (h : GoodOn f a b) (hl : l ∈ Icc a b) :
    (1.03 : ℝ) < Real.sqrt (f l) ∧ Real.sqrt (f l) < (3.97 : ℝ) := by
  obtain ⟨h1, h2⟩ := h.bounds hl
  exact ⟨(Real.lt_sqrt (by norm_num)).2 (lt_of_eq_of_lt (by norm_num) h1),
    (Real.sqrt_lt' (by norm_num)).2 (lt_of_lt_of_eq h2 (by norm_num))⟩

theorem GoodOn.sqrt_anti {f : ℝ → ℝ} {a b : ℝ} (h : GoodOn f a b) :
    StrictAntiOn (fun l => Real.sqrt (f l)) (Icc a b) := by
  intro l hl l' hl' hll'
  exact Real.sqrt_lt_sqrt (by linarith [(h.bounds hl').1]) (h.anti hl hl' hll')

end Spdc.Crystals
