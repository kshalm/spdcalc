import Spdc.Real.CrystalAxes
import Mathlib.Data.Rat.Cast.Order
import Mathlib.Data.Rat.Cast.CharZero
/-!
C01-T4, the mechanism of the antitone-partition certificates.  A Boolean that holds on every link of a chain of
rational points gives a property on the whole interval; for two decreasing functions a gap across each link is
a gap on it; a gap in `n²` above the thermal `margin` orders the indices; the evaluation of `nSq` over `ℚ`
speaks about `ℝ`.  The chains are the tables of `CrystalCertData.lean`; `CrystalClass.lean` applies them crystal by crystal.
-/
namespace Spdc.Crystals
open Set

/-- `ok` holds on every consecutive pair of `p :: pts`, and there is at least one pair -/
def chainCover (ok : ℚ → ℚ → Bool) : ℚ → List ℚ → Bool
  | _, [] => false
  | p, [q] => ok p q
  | p, q :: r :: rest => ok p q && chainCover ok q (r :: rest)

theorem cover_of_chain {P : ℝ → Prop} {ok : ℚ → ℚ → Bool}
    (sound : ∀ p q : ℚ, ok p q = true → ∀ x ∈ Icc (p : ℝ) q, P x) :
    ∀ (pts : List ℚ) (p : ℚ) {a b : ℝ}, chainCover ok p pts = true →
      (p : ℝ) = a → ((pts.getLastD p : ℚ) : ℝ) = b → ∀ x ∈ Icc a b, P x
  | [], _, _, _, h, _, _ => nomatch h
  | [q], p, _, _, h, rfl, rfl => sound p q h
  | q :: r :: rest, p, _, _, h, rfl, rfl => fun x hx => by
    obtain ⟨h1, h2⟩ := Bool.and_eq_true_iff.1 h
    rcases le_total x q with hxq | hxq
    · exact sound p q h1 x ⟨hx.1, hxq⟩
    · exact cover_of_chain sound (r :: rest) q h2 rfl (congrArg _ List.getLastD_cons.symm) x
        ⟨hxq, hx.2⟩

/-- one link `[p, q] ⊆ [a, b]` of an antitone-partition certificate: the upper function `f` at the right
end still exceeds the lower one (margin included) `g` at the left end -/
def linkOK (f g : ℚ → ℚ) (a b p q : ℚ) : Bool :=
  decide (a ≤ p) && decide (q ≤ b) && decide (g p < f q)

/-- room in `n²` for a thermo-optic difference of at most `δ` in `n`:
`(√S + δ)² ≤ S + 2·3.97·δ + δ²` as long as `√S < 3.97` -/
def margin {α : Type} [Add α] [Mul α] [OfScientific α] (δ : α) : α := 7.94 * δ + δ * δ

theorem cast_margin (δ : ℚ) : ((margin δ : ℚ) : ℝ) = margin (δ : ℝ) := by
  simp only [margin]; push_cast; rfl

theorem lt_of_sq_gap {Ss Sb δ t : ℝ} (h0 : 0 ≤ Ss) (hs : Real.sqrt Ss < 3.97) (hδ : 0 ≤ δ)
    (ht : t ≤ δ) (h : Ss + margin δ < Sb) : Real.sqrt Ss + t < Real.sqrt Sb := by
  have hm := mul_le_mul_of_nonneg_right hs.le hδ
  refine lt_of_le_of_lt (add_le_add_right ht _)
    ((Real.lt_sqrt (add_nonneg (Real.sqrt_nonneg _) hδ)).2 ?_)
  rw [add_sq, Real.sq_sqrt h0]
  simp only [margin] at h
  linarith only [h, hm]

/-- on a link `[pᵢ, pᵢ₊₁]`, `s x ≤ s pᵢ` and `f pᵢ₊₁ ≤ f x` -/
theorem gap_of_cert {f s : ℝ → ℝ} {fQ sQ : ℚ → ℚ} {a b : ℝ} (hf : ∀ q : ℚ, ((fQ q : ℚ) : ℝ) = f q)
    (hs : ∀ q : ℚ, ((sQ q : ℚ) : ℝ) = s q) (δ p : ℚ) (pts : List ℚ)
    (hok : chainCover (linkOK fQ (fun q => sQ q + margin δ) p (pts.getLastD p)) p pts = true)
    (ha : (p : ℝ) = a) (hb : ((pts.getLastD p : ℚ) : ℝ) = b)
    (af : StrictAntiOn f (Icc a b)) (as : StrictAntiOn s (Icc a b)) :
    ∀ x ∈ Icc a b, s x + margin (δ : ℝ) < f x := by
  subst ha hb
  refine cover_of_chain (P := fun x => s x + margin (δ : ℝ) < f x) (fun u v h x hx => ?_) pts p hok
    rfl rfl
  simp only [linkOK, Bool.and_eq_true, decide_eq_true_eq] at h
  obtain ⟨⟨hu, hv⟩, hgf⟩ := h
  have hu' : (p : ℝ) ≤ u := by exact_mod_cast hu
  have hv' : (v : ℝ) ≤ (pts.getLastD p : ℚ) := by exact_mod_cast hv
  have hgf' : s u + margin (δ : ℝ) < f v := by
    rw [← hf, ← hs, ← cast_margin]; exact_mod_cast hgf
  have h1 := as.antitoneOn ⟨hu', hx.1.trans (hx.2.trans hv')⟩ ⟨hu'.trans hx.1, hx.2.trans hv'⟩ hx.1
  have h2 := af.antitoneOn ⟨hu'.trans hx.1, hx.2.trans hv'⟩ ⟨hu'.trans (hx.1.trans hx.2), hv'⟩ hx.2
  linarith

theorem cast_ktpNySqLo (q : ℚ) : ((ktpNySqLo q : ℚ) : ℝ) = ktpNySqLo (q : ℝ) := by
  simp only [ktpNySqLo, sellB, sqr]; push_cast; rfl
theorem cast_ktpNySqHi (q : ℚ) : ((ktpNySqHi q : ℚ) : ℝ) = ktpNySqHi (q : ℝ) := by
  simp only [ktpNySqHi, sellB, sqr]; push_cast; rfl

theorem cast_ktpNySq (q : ℚ) : ((ktpNySq q : ℚ) : ℝ) = ktpNySq (q : ℝ) := by
  have h : (q : ℝ) < 1.2 ↔ q < 1.2 := by
    rw [show (1.2 : ℝ) = ((1.2 : ℚ) : ℝ) by norm_num, Rat.cast_lt]
  simp only [ktpNySq, h, apply_ite (Rat.cast : ℚ → ℝ), cast_ktpNySqLo, cast_ktpNySqHi]

theorem cast_nSq (c : Crystal) (i : Fin 3) (q T : ℚ) :
    ((comp i (nSq c q T) : ℚ) : ℝ) = comp i (nSq c (q : ℝ) (T : ℝ)) := by
  cases c <;> fin_cases i <;>
    simp only [comp, nSq, cast_ktpNySq, bboNoSq, bboNeSq, ktpNxSq, ktpNzSq, biboNxSq, biboNySq,
      biboNzSq, lnNoSq, lnNeSq, mgoNoSq, mgoNeSq, kdpNoSq, kdpNeSq, ags1NoSq, ags1NeSq, ags2NoSq,
      ags2NeSq, lio2NoSq, lio2NeSq, lio1NoSq, lio1NeSq, agsNoSq, agsNeSq, gayerF, celsius, sellA,
      sellB, sellK, sellP, sellInv, sellStd, sellG, sqr, Rat.cast_add, Rat.cast_sub, Rat.cast_mul,
      Rat.cast_div, Rat.cast_neg, Rat.cast_ofScientific]

/-- index `i` stays below index `j` over the whole window and temperature range -/
def IndexLt (c : Crystal) (i j : Fin 3) : Prop :=
  ∀ {T : ℝ}, Tmin ≤ T → T ≤ Tmax → ∀ {lam : ℝ}, windowLo c ≤ lam → lam ≤ windowHi c →
    comp i (indices c lam T) < comp j (indices c lam T)

/-- `hδ`: the two thermo-optic terms differ by at most 180 K times the difference of the coefficients -/
theorem class_lt {c : Crystal} {i j : Fin 3} {δ : ℝ} (hδ : 180 * |slope c i - slope c j| ≤ δ)
    (hgap : ∀ {T : ℝ}, Tmin ≤ T → T ≤ Tmax → ∀ l ∈ Icc (lLo c) (lHi c),
      comp i (nSq c l T) + margin δ < comp j (nSq c l T)) : IndexLt c i j := by
  intro T hT1 hT2 lam h1 h2
  rw [indices_comp, indices_comp]
  have hm := microns_mem h1 h2
  have hg := nSq_good c hT1 hT2 i
  have ht : tempOffset T * slope c i - tempOffset T * slope c j ≤ δ := by
    rw [← mul_sub]
    exact (le_abs_self _).trans (thermal_small hT1 hT2 hδ)
  have hδ0 : 0 ≤ δ := le_trans (by positivity) hδ
  have := lt_of_sq_gap ((by norm_num : (0 : ℝ) ≤ 1.0609).trans (hg.bounds hm).1.le)
    (hg.sqrt_bounds hm).2 hδ0 ht (hgap hT1 hT2 _ hm)
  linarith

/-- The rational evaluation is taken at `T = 0`: only LiNb_MgO's squared indices depend on `T`. -/
theorem indexLt_of_cert {c : Crystal} {i j : Fin 3} (hc : c ≠ .LiNb_MgO) (δ p : ℚ) (pts : List ℚ)
    (hok : chainCover (linkOK (fun q => comp j (nSq c q 0))
      (fun q => comp i (nSq c q 0) + margin δ) p (pts.getLastD p)) p pts = true)
    (ha : (p : ℝ) = lLo c) (hb : ((pts.getLastD p : ℚ) : ℝ) = lHi c)
    (hδ : 180 * |slope c i - slope c j| ≤ (δ : ℝ)) : IndexLt c i j :=
  class_lt hδ fun {T} hT1 hT2 =>
    have cast : ∀ (k : Fin 3) (q : ℚ), ((comp k (nSq c q 0) : ℚ) : ℝ) = comp k (nSq c (q : ℝ) T) :=
      fun k q => by rw [cast_nSq, nSq_temp hc _ T ((0 : ℚ) : ℝ)]
    gap_of_cert (cast j) (cast i) δ p pts hok ha hb (nSq_good c hT1 hT2 j).anti
      (nSq_good c hT1 hT2 i).anti

end Spdc.Crystals
