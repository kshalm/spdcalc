import Spdc.Model.Hom
import Spdc.Real.GridLemmas
import Spdc.Real.Inst
import Spdc.Real.Outcome
import Mathlib.Algebra.BigOperators.Field
import Mathlib.Algebra.Order.BigOperators.Group.Finset
import Mathlib.Tactic.Linarith
import Mathlib.Tactic.Ring
import Mathlib.Tactic.NormNum
/-!
The HOM model over ℝ (C09 / C10): bridges from the executable model (`sumList`, `List.range`, flat `Array`s) to
`Finset` sums over ℂ; how `collectOutcomes` acts on a cons, on a list of `ok`s and under a `map`
(`collectOutcomes_*`); the bound `abs_homInterf_le_half` on the interference sum, and the algebra of the rate and
the visibility that turns it into their ranges (`homRate_*`, `rate_mem_of_abs_le`, `visibilityOf_*`).
-/
namespace Spdc.HomLemmas
open Spdc.Grid Spdc.Hom

theorem sumList_map_range (n : ℕ) (t : ℕ → ℝ) :
    sumList ((List.range n).map t) = ∑ k ∈ Finset.range n, t k :=
  sumList_range t n

theorem collectOutcomes_cons {β : Type} (x : Outcome β) (t : List (Outcome β)) :
    collectOutcomes (x :: t) = x.bind fun b => (collectOutcomes t).map (b :: ·) := by
  cases x with
  | ok b => simp only [collectOutcomes, Outcome.bind_ok]; cases collectOutcomes t <;> rfl
  | err e => rfl
  | panic e => rfl

theorem collectOutcomes_map_ok {β γ : Type} (l : List γ) (f : γ → β) :
    collectOutcomes (l.map fun x => Outcome.ok (f x)) = .ok (l.map f) := by
  induction l with
  | nil => rfl
  | cons a t ih => rw [List.map_cons, collectOutcomes_cons, ih]; rfl

theorem collectOutcomes_map {β γ : Type} (c : β → γ) (l : List (Outcome β)) :
    collectOutcomes (l.map (Outcome.map c)) = (collectOutcomes l).map (List.map c) := by
  induction l with
  | nil => rfl
  | cons x t ih =>
    rw [List.map_cons, collectOutcomes_cons, collectOutcomes_cons, ih, Outcome.bind_map,
      Outcome.map_bind]
    exact Outcome.bind_congr fun b _ => by rw [Outcome.map_map, Outcome.map_map]; rfl

theorem jsiNorm_eq (f : Array (Cx ℝ)) :
    jsiNorm f = ∑ k ∈ Finset.range f.size, Complex.normSq (at' f k).toC := by
  unfold jsiNorm
  rw [sumList_eq, Finset.sum_range, ← Fin.sum_univ_fun_getElem]
  simp [at']

theorem homTerm_eq (grid : Steps2D ℝ) (f g : Array (Cx ℝ)) (τ : ℝ) (k : ℕ) :
    homTerm grid f g τ k =
      ((starRingEnd ℂ) (at' f k).toC * (at' g k).toC *
        Complex.exp (((deltaW grid k * τ : ℝ) : ℂ) * Complex.I)).re := by
  unfold homTerm
  rw [← Cx.toC_re, Cx.toC_mul', Cx.toC_mul', Cx.toC_conj, Cx.toC_fromPolar, lit_one, div_one,
    Complex.ofReal_one, one_mul]

theorem get2dIndices_swapIdx {n k : ℕ} (hk : k < n * n) :
    get2dIndices (swapIdx n k) n = (k / n, k % n) :=
  get2dIndices_flat _ (Nat.div_lt_of_lt_mul hk)

theorem swapIdx_lt {n k : ℕ} (hk : k < n * n) : swapIdx n k < n * n :=
  flat_lt (Nat.mod_lt _ (Nat.pos_of_lt_mul_left hk)) (Nat.div_lt_of_lt_mul hk)

theorem swapIdx_invol {n k : ℕ} (hk : k < n * n) : swapIdx n (swapIdx n k) = k := by
  have h := get2dIndices_swapIdx hk
  simp only [get2dIndices, Prod.mk.injEq] at h
  rw [swapIdx, h.1, h.2]
  exact Nat.div_add_mod' k n

theorem value_swapIdx {n : ℕ} (ax : Steps ℝ) (hn : ax.n = n) {k : ℕ} (hk : k < n * n) :
    (Steps2D.value ⟨ax, ax⟩ (swapIdx n k)) =
      ((Steps2D.value ⟨ax, ax⟩ k).2, (Steps2D.value ⟨ax, ax⟩ k).1) := by
  simp only [Steps2D.value, hn, get2dIndices_swapIdx hk]
  rfl

theorem at_swapArr {n : ℕ} (f : Array (Cx ℝ)) {k : ℕ} (hk : k < n * n) :
    at' (swapArr n f) k = at' f (swapIdx n k) := by
  simp [at', swapArr, hk]

theorem size_swapArr (n : ℕ) (f : Array (Cx ℝ)) : (swapArr n f).size = n * n := by
  simp [swapArr]

theorem sum_swapIdx (n : ℕ) (h : ℕ → ℝ) :
    ∑ k ∈ Finset.range (n * n), h (swapIdx n k) = ∑ k ∈ Finset.range (n * n), h k := by
  have hmem : ∀ k ∈ Finset.range (n * n), swapIdx n k ∈ Finset.range (n * n) := fun k hk =>
    Finset.mem_range.mpr (swapIdx_lt (Finset.mem_range.mp hk))
  have hinv : ∀ k ∈ Finset.range (n * n), swapIdx n (swapIdx n k) = k := fun k hk =>
    swapIdx_invol (Finset.mem_range.mp hk)
  exact Finset.sum_nbij' (swapIdx n) (swapIdx n) hmem hmem hinv hinv fun _ _ => rfl

theorem homInterf_eq (grid : Steps2D ℝ) (f g : Array (Cx ℝ)) (τ : ℝ) :
    homInterf grid f g τ = ∑ k ∈ Finset.range grid.len, homTerm grid f g τ k := by
  unfold homInterf; exact sumList_map_range _ _

theorem homInterf_eq_sum {grid : Steps2D ℝ} {f g : Array (Cx ℝ)} {τ : ℝ} {t : ℕ → ℝ}
    (h : ∀ k < grid.len, homTerm grid f g τ k = t k) :
    homInterf grid f g τ = ∑ k ∈ Finset.range grid.len, t k := by
  rw [homInterf_eq]; exact Finset.sum_congr rfl fun k hk => h k (Finset.mem_range.mp hk)

theorem abs_term_le (a b : ℂ) (θ : ℝ) :
    |((starRingEnd ℂ) a * b * Complex.exp ((θ : ℂ) * Complex.I)).re| ≤
      (Complex.normSq a + Complex.normSq b) / 2 := by
  have h := Complex.abs_re_le_norm ((starRingEnd ℂ) a * b * Complex.exp ((θ : ℂ) * Complex.I))
  rw [norm_mul, norm_mul, Complex.norm_exp_ofReal_mul_I, mul_one, RCLike.norm_conj] at h
  rw [Complex.normSq_eq_norm_sq, Complex.normSq_eq_norm_sq]
  linarith [two_mul_le_add_sq ‖a‖ ‖b‖]

theorem abs_homInterf_le_half (grid : Steps2D ℝ) (f g : Array (Cx ℝ)) (τ : ℝ) :
    |homInterf grid f g τ| ≤ (∑ k ∈ Finset.range grid.len, Complex.normSq (at' f k).toC +
      ∑ k ∈ Finset.range grid.len, Complex.normSq (at' g k).toC) / 2 := by
  rw [homInterf_eq, ← Finset.sum_add_distrib, Finset.sum_div]
  refine (Finset.abs_sum_le_sum_abs _ _).trans (Finset.sum_le_sum fun k _ => ?_)
  rw [homTerm_eq]
  exact abs_term_le _ _ _

theorem homRate_none_eq_ok (grid : Steps2D ℝ) (f g : Array (Cx ℝ)) (τ : ℝ)
    (hf : grid.len ≤ f.size) (hg : grid.len ≤ g.size) :
    homRate grid f g τ none = .ok (1 / 2 * (1 - homInterf grid f g τ / jsiNorm f)) := by
  simp [homRate, hf, hg, lit_half, lit_one]

theorem homRate_some_eq_none (grid : Steps2D ℝ) (f g : Array (Cx ℝ)) (τ : ℝ) :
    homRate grid f g τ (some (jsiNorm f)) = homRate grid f g τ none := by
  simp [homRate]

theorem homRate_eq_zero {grid : Steps2D ℝ} {f g : Array (Cx ℝ)} {τ : ℝ} (hf : grid.len ≤ f.size)
    (hg : grid.len ≤ g.size) (hN : jsiNorm f ≠ 0) (hI : homInterf grid f g τ = jsiNorm f) :
    homRate grid f g τ none = .ok 0 := by
  rw [homRate_none_eq_ok grid f g τ hf hg, hI, div_self hN]; norm_num

theorem rate_mem_of_abs_le {I N : ℝ} (hN : 0 < N) (h : |I| ≤ N) :
    0 ≤ 1 / 2 * (1 - I / N) ∧ 1 / 2 * (1 - I / N) ≤ 1 := by
  have hq : |I / N| ≤ 1 := by rwa [abs_div, abs_of_pos hN, div_le_one hN]
  obtain ⟨h2, h1⟩ := abs_le.mp hq
  constructor <;> linarith

theorem visibilityOf_eq (r : ℝ) : visibilityOf r = 1 - 2 * r := by
  simp only [visibilityOf, lit_half]; ring

theorem visibilityOf_mem {r : ℝ} (h0 : 0 ≤ r) (h1 : r ≤ 1) :
    -1 ≤ visibilityOf r ∧ visibilityOf r ≤ 1 := by
  rw [visibilityOf_eq]; constructor <;> linarith

theorem at_sampled (J : ℝ → ℝ → Cx ℝ) (grid : Steps2D ℝ) {k : ℕ} (hk : k < grid.len) :
    at' (sampled J grid) k = J (grid.value k).1 (grid.value k).2 := by
  simp [at', sampled, hk]

theorem at_sampledSwapped (J : ℝ → ℝ → Cx ℝ) (grid : Steps2D ℝ) {k : ℕ} (hk : k < grid.len) :
    at' (sampledSwapped J grid) k = J (grid.value k).2 (grid.value k).1 := by
  simp [at', sampledSwapped, hk]

theorem sampled_eq (J : ℝ → ℝ → Cx ℝ) (g : Steps2D ℝ) :
    sampled J g = (g.collect.map fun p => J p.1 p.2).toArray := by
  simp [sampled, Steps2D.collect, List.map_map, Function.comp_def]

theorem sampledSwapped_eq (J : ℝ → ℝ → Cx ℝ) (g : Steps2D ℝ) :
    sampledSwapped J g = (g.collect.map fun p => J p.2 p.1).toArray := by
  simp [sampledSwapped, Steps2D.collect, List.map_map, Function.comp_def]

theorem size_sampled (J : ℝ → ℝ → Cx ℝ) (grid : Steps2D ℝ) : (sampled J grid).size = grid.len := by
  simp [sampled]

theorem size_sampledSwapped (J : ℝ → ℝ → Cx ℝ) (grid : Steps2D ℝ) :
    (sampledSwapped J grid).size = grid.len := by
  simp [sampledSwapped]

theorem homTerm_zero_delay {grid : Steps2D ℝ} {f g : Array (Cx ℝ)} {k : ℕ} (h : at' g k = at' f k) :
    homTerm grid f g 0 k = Complex.normSq (at' f k).toC := by
  rw [homTerm_eq, h]
  simp [Complex.normSq_apply, Complex.mul_re]

theorem re_conj_polar_mul (A B θ₁ θ₂ θ₃ : ℝ) :
    ((starRingEnd ℂ) ((A : ℂ) * Complex.exp ((θ₁ : ℂ) * Complex.I)) *
        ((B : ℂ) * Complex.exp ((θ₂ : ℂ) * Complex.I)) *
        Complex.exp ((θ₃ : ℂ) * Complex.I)).re = A * B * Real.cos (-θ₁ + θ₂ + θ₃) := by
  -- expand the exponential of the sum on the right and compare factors
  rw [← Complex.exp_ofReal_mul_I_re, ← Complex.re_ofReal_mul]
  congr 1
  rw [map_mul, Complex.conj_ofReal, ← Complex.exp_conj, map_mul, Complex.conj_I, Complex.conj_ofReal]
  push_cast
  rw [add_mul, add_mul, Complex.exp_add, Complex.exp_add, neg_mul, mul_neg]
  ring

def scaleArr (c : Cx ℝ) (f : Array (Cx ℝ)) : Array (Cx ℝ) := f.map (Cx.mul c)

theorem size_scaleArr (c : Cx ℝ) (f : Array (Cx ℝ)) : (scaleArr c f).size = f.size := by
  simp [scaleArr]

theorem at_scaleArr (c : Cx ℝ) (f : Array (Cx ℝ)) {k : ℕ} (hk : k < f.size) :
    at' (scaleArr c f) k = Cx.mul c (at' f k) := by
  simp [at', scaleArr, hk]

theorem homTerm_scale (grid : Steps2D ℝ) (c : Cx ℝ) (f g : Array (Cx ℝ)) (τ : ℝ) {k : ℕ}
    (hf : k < f.size) (hg : k < g.size) :
    homTerm grid (scaleArr c f) (scaleArr c g) τ k = Complex.normSq c.toC * homTerm grid f g τ k := by
  rw [homTerm_eq, homTerm_eq, at_scaleArr c f hf, at_scaleArr c g hg, Cx.toC_mul', Cx.toC_mul', map_mul,
    ← Complex.re_ofReal_mul, Complex.normSq_eq_conj_mul_self]
  congr 1
  ring

theorem jsiNorm_scale (c : Cx ℝ) (f : Array (Cx ℝ)) :
    jsiNorm (scaleArr c f) = Complex.normSq c.toC * jsiNorm f := by
  rw [jsiNorm_eq, jsiNorm_eq, size_scaleArr, Finset.mul_sum]
  apply Finset.sum_congr rfl
  intro k hk
  rw [at_scaleArr c f (Finset.mem_range.mp hk), Cx.toC_mul', map_mul]

end Spdc.HomLemmas
