-- GENERATED by tools/c01_cert.py (untrusted) — partition certificates for C01-T4; the chains are
-- re-checked by the Lean kernel in Spdc/Real/CrystalClass.lean
namespace Spdc.Crystals.Cert
/-- bboNeSq + margin < bboNoSq on [189/1000, 7/2] µm: 3 points, δ = 0.001314, margin = 0.0104349 -/
def bboDelta : Rat := (657 : Rat) / 500000
def bboPts : List Rat := [(2869 : Rat) / 10000, (7 : Rat) / 2]
/-- ktpNxSq + margin < ktpNzSq on [7/20, 7/2] µm: 4 points, δ = 0.0009, margin = 0.00714681 -/
def ktpZXDelta : Rat := (9 : Rat) / 10000
def ktpZXPts : List Rat := [(237 : Rat) / 400, (34813 : Rat) / 10000, (7 : Rat) / 2]
/-- ktpNySqLo + margin < ktpNzSq on [7/20, 7/2] µm: 4 points, δ = 0.00054, margin = 0.00428789 -/
def ktpZYLoDelta : Rat := (27 : Rat) / 50000
def ktpZYLoPts : List Rat := [(41 : Rat) / 80, (25227 : Rat) / 10000, (7 : Rat) / 2]
/-- ktpNySqHi + margin < ktpNzSq on [7/20, 7/2] µm: 4 points, δ = 0.00054, margin = 0.00428789 -/
def ktpZYHiDelta : Rat := (27 : Rat) / 50000
def ktpZYHiPts : List Rat := [(2579 : Rat) / 5000, (5097 : Rat) / 2000, (7 : Rat) / 2]
/-- biboNxSq + margin < biboNzSq on [143/500, 5/2] µm: 3 points, δ = 0, margin = 0 -/
def biboZXDelta : Rat := (0 : Rat)
def biboZXPts : List Rat := [(417 : Rat) / 500, (5 : Rat) / 2]
/-- biboNySq + margin < biboNzSq on [143/500, 5/2] µm: 3 points, δ = 0, margin = 0 -/
def biboZYDelta : Rat := (0 : Rat)
def biboZYPts : List Rat := [(1127 : Rat) / 2500, (5 : Rat) / 2]
/-- lnNeSq + margin < lnNoSq on [2/5, 17/5] µm: 5 points, δ = 0.00719046, margin = 0.057144 -/
def lnDelta : Rat := (359523 : Rat) / 50000000
def lnPts : List Rat := [(99 : Rat) / 200, (92 : Rat) / 125, (19943 : Rat) / 10000, (17 : Rat) / 5]
/-- kdpNeSq + margin < kdpNoSq on [1/5, 3/2] µm: 4 points, δ = 0, margin = 0 -/
def kdpDelta : Rat := (0 : Rat)
def kdpPts : List Rat := [(2587 : Rat) / 10000, (1293 : Rat) / 2500, (3 : Rat) / 2]
/-- ags1NeSq + margin < ags1NoSq on [1, 27/2] µm: 7 points, δ = 0, margin = 0 -/
def ags1Delta : Rat := (0 : Rat)
def ags1Pts : List Rat := [(2229 : Rat) / 2000, (2641 : Rat) / 2000, (18363 : Rat) / 10000, (57399 : Rat) / 10000, (31493 : Rat) / 2500, (27 : Rat) / 2]
/-- ags2NeSq + margin < ags2NoSq on [1, 27/2] µm: 6 points, δ = 0, margin = 0 -/
def ags2Delta : Rat := (0 : Rat)
def ags2Pts : List Rat := [(11147 : Rat) / 10000, (13521 : Rat) / 10000, (1053 : Rat) / 500, (81073 : Rat) / 10000, (27 : Rat) / 2]
/-- lio2NeSq + margin < lio2NoSq on [3/10, 5] µm: 3 points, δ = 0, margin = 0 -/
def lio2Delta : Rat := (0 : Rat)
def lio2Pts : List Rat := [(297 : Rat) / 400, (5 : Rat)]
/-- lio1NeSq + margin < lio1NoSq on [3/10, 5] µm: 3 points, δ = 0, margin = 0 -/
def lio1Delta : Rat := (0 : Rat)
def lio1Pts : List Rat := [(3651 : Rat) / 5000, (5 : Rat)]
/-- agsNeSq + margin < agsNoSq on [1/2, 13] µm: 14 points, δ = 0.00018, margin = 0.00142923 -/
def agsDelta : Rat := (9 : Rat) / 50000
def agsPts : List Rat := [(5023 : Rat) / 10000, (5057 : Rat) / 10000, (1277 : Rat) / 2500, (2593 : Rat) / 5000, (2653 : Rat) / 5000, (2747 : Rat) / 5000, (5801 : Rat) / 10000, (6333 : Rat) / 10000, (7373 : Rat) / 10000, (10119 : Rat) / 10000, (4203 : Rat) / 1000, (104457 : Rat) / 10000, (13 : Rat)]
/-- LiNb_MgO: 12 F cells × 7 wavelength cells -/
def mgoFs : List Rat := [(-7288327 : Rat) / 300, (-2936327 : Rat) / 300, (471891 : Rat) / 100, (5767673 : Rat) / 300, (10119673 : Rat) / 300, (4823891 : Rat) / 100, (18823673 : Rat) / 300, (23175673 : Rat) / 300, (9175891 : Rat) / 100, (31879673 : Rat) / 300, (36231673 : Rat) / 300, (13527891 : Rat) / 100]
def mgoLs : List Rat := [(261 : Rat) / 500, (339 : Rat) / 500, (1111 : Rat) / 1000, (2257 : Rat) / 1000, (3203 : Rat) / 1000, (1917 : Rat) / 500, (4 : Rat)]
end Spdc.Crystals.Cert
