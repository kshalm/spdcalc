import Spdc.Model.Poling
import Spdc.Real.Inst
/-!
C19 over ℝ: apodization windows, poling domains, and the state machine of the constructors and setters: the
invariant `PP.Inv` (stored magnitude positive) holds after `PP.new` of a non-zero period and is kept by every
operation that requests none or a non-zero one (`step_inv`, `run_inv`); under it `k_eff` returns (`kEff_on`).
-/
namespace Spdc.Poling

/-- `f64 as usize` at ℝ: truncation of a non-negative number, `0` for negatives -/
noncomputable instance : AsUsize ℝ := ⟨fun x => ⌊x⌋.toNat⟩

theorem asUsize_real (x : ℝ) : (AsUsize.asUsize x : ℕ) = ⌊x⌋.toNat := rfl

theorem twoPi_real : (twoPi : ℝ) = 2 * Real.pi := by
  simp [twoPi, lit_two, Transc.pi]

theorem sq_real (x : ℝ) : sq x = x ^ 2 := by simp [sq, pow_two]

theorem window_in_range (w : Apod ℝ) (z len : ℝ) (hz : -1 ≤ z ∧ z ≤ 1) :
    window w z len = windowRaw w z len := by
  unfold window
  rw [if_pos]
  simpa [lit_one] using hz

theorem window_out_of_range (w : Apod ℝ) (z len : ℝ) (hz : z < -1 ∨ 1 < z) :
    (window w z len).isPanic = true := by
  unfold window
  rw [if_neg]
  · rfl
  · rw [lit_one]; exact fun h => hz.elim (not_lt.mpr h.1) (not_lt.mpr h.2)

/-! The algebraic/trigonometric kinds at width parameter 1. -/

noncomputable def bartlett1 (z : ℝ) : ℝ := 1 - |z|
noncomputable def blackman1 (z : ℝ) : ℝ := 21 / 50 + 1 / 2 * Real.cos (Real.pi * z) + 2 / 25 * Real.cos (2 * Real.pi * z)
noncomputable def connes1 (z : ℝ) : ℝ := (1 - z ^ 2) ^ 2
noncomputable def cosine1 (z : ℝ) : ℝ := Real.cos (Real.pi / 2 * z)
noncomputable def hamming1 (z : ℝ) : ℝ := (27 + 23 * Real.cos (Real.pi * z)) / 50
noncomputable def welch1 (z : ℝ) : ℝ := 1 - z ^ 2

theorem windowRaw_bartlett1 (z len : ℝ) : windowRaw (.bartlett 1) z len = .ok (bartlett1 z) := by
  simp [windowRaw, bartlett1, lit_one, Transc.abs]
theorem windowRaw_blackman1 (z len : ℝ) : windowRaw (.blackman 1) z len = .ok (blackman1 z) := by
  norm_num [windowRaw, blackman1, twoPi_real, Transc.cos, Transc.pi]
theorem windowRaw_connes1 (z len : ℝ) : windowRaw (.connes 1) z len = .ok (connes1 z) := by
  simp [windowRaw, connes1, lit_one, sq_real]
theorem windowRaw_cosine1 (z len : ℝ) : windowRaw (.cosine 1) z len = .ok (cosine1 z) := by
  simp only [windowRaw, cosine1, lit_half, Transc.cos, Transc.pi, div_one]
  congr 2; ring
theorem windowRaw_hamming1 (z len : ℝ) : windowRaw (.hamming 1) z len = .ok (hamming1 z) := by
  norm_num [windowRaw, hamming1, Transc.cos, Transc.pi]
theorem windowRaw_welch1 (z len : ℝ) : windowRaw (.welch 1) z len = .ok (welch1 z) := by
  simp [windowRaw, welch1, lit_one, sq_real]

theorem bartlett1_range {z : ℝ} (h : -1 ≤ z ∧ z ≤ 1) : 0 ≤ bartlett1 z ∧ bartlett1 z ≤ 1 :=
  ⟨sub_nonneg.mpr (abs_le.mpr h), sub_le_self 1 (abs_nonneg z)⟩

theorem blackman1_range (z : ℝ) : 0 ≤ blackman1 z ∧ blackman1 z ≤ 1 := by
  -- with `c = cos πz` the window is `(1 + c)(17 + 8c)/50`, and 1 minus it is `(1 − c)(33 + 8c)/50`
  have h1 := Real.neg_one_le_cos (Real.pi * z)
  have h2 := Real.cos_le_one (Real.pi * z)
  rw [blackman1, mul_assoc, Real.cos_two_mul]
  generalize Real.cos (Real.pi * z) = c at h1 h2
  constructor
  · linarith [mul_nonneg (by linarith : 0 ≤ 1 + c) (by linarith : 0 ≤ 17 + 8 * c)]
  · linarith [mul_nonneg (by linarith : 0 ≤ 1 - c) (by linarith : 0 ≤ 33 + 8 * c)]

theorem welch1_range {z : ℝ} (h : -1 ≤ z ∧ z ≤ 1) : 0 ≤ welch1 z ∧ welch1 z ≤ 1 :=
  ⟨sub_nonneg.mpr ((sq_le_one_iff_abs_le_one z).mpr (abs_le.mpr h)), sub_le_self 1 (sq_nonneg z)⟩

/-- Connes' window is the square of Welch's -/
theorem connes1_range {z : ℝ} (h : -1 ≤ z ∧ z ≤ 1) : 0 ≤ connes1 z ∧ connes1 z ≤ 1 :=
  ⟨sq_nonneg _, pow_le_one₀ (welch1_range h).1 (welch1_range h).2⟩

theorem cosine1_range {z : ℝ} (h : -1 ≤ z ∧ z ≤ 1) : 0 ≤ cosine1 z ∧ cosine1 z ≤ 1 := by
  have hz : |Real.pi / 2 * z| ≤ Real.pi / 2 := by
    rw [abs_mul, abs_of_pos Real.pi_div_two_pos]
    exact mul_le_of_le_one_right Real.pi_div_two_pos.le (abs_le.mpr h)
  exact ⟨Real.cos_nonneg_of_mem_Icc (abs_le.mp hz), Real.cos_le_one _⟩

theorem hamming1_range (z : ℝ) : 0 ≤ hamming1 z ∧ hamming1 z ≤ 1 := by
  have h1 := Real.neg_one_le_cos (Real.pi * z)
  have h2 := Real.cos_le_one (Real.pi * z)
  unfold hamming1
  constructor
  · exact div_nonneg (by linarith) (by norm_num)
  · rw [div_le_one (by norm_num)]; linarith

noncomputable def gaussianW (fwhm len z : ℝ) : ℝ :=
  Real.exp (-(1 / 2) * (z / (2 * (fwhm / (2 * Real.sqrt (2 * Real.log 2))) / len)) ^ 2)

theorem windowRaw_gaussian (fwhm z len : ℝ) :
    windowRaw (.gaussian fwhm) z len = .ok (gaussianW fwhm len z) := by
  simp [windowRaw, gaussianW, fwhmToSigma, fwhmOverWaist, lit_two, lit_half, sq_real, Transc.exp,
    Transc.sqrt, Transc.ln]

theorem gaussianW_even (fwhm len z : ℝ) : gaussianW fwhm len (-z) = gaussianW fwhm len z := by
  simp only [gaussianW, neg_div, neg_sq]

theorem gaussianW_range (fwhm len z : ℝ) : 0 ≤ gaussianW fwhm len z ∧ gaussianW fwhm len z ≤ 1 :=
  ⟨(Real.exp_pos _).le,
    Real.exp_le_one_iff.mpr (mul_nonpos_of_nonpos_of_nonneg (by norm_num) (sq_nonneg _))⟩

theorem gaussianW_half (fwhm len : ℝ) (hf : fwhm ≠ 0) (hl : len ≠ 0) :
    gaussianW fwhm len (fwhm / len) = 1 / 2 := by
  have hlog : 0 < Real.log 2 := Real.log_pos (by norm_num)
  have hq : fwhm / len / (2 * (fwhm / (2 * Real.sqrt (2 * Real.log 2))) / len)
      = Real.sqrt (2 * Real.log 2) := by
    have hs : Real.sqrt (2 * Real.log 2) ≠ 0 := (Real.sqrt_pos.mpr (by linarith)).ne'
    field_simp
  rw [gaussianW, hq, Real.sq_sqrt (by linarith), ← mul_assoc, show -(1 / 2 : ℝ) * 2 = -1 by norm_num,
    neg_one_mul, Real.exp_neg, Real.exp_log (by norm_num), one_div]

noncomputable def interpIndex (n : ℕ) (z : ℝ) : ℝ := 1 / 2 * (z + 1) * ((n - 1 : ℕ) : ℝ)

theorem interpolate_nil (z : ℝ) : interpolate ([] : List ℝ) z = .ok 1 := by
  simp [interpolate, lit_one]

theorem interpolate_eq (vs : List ℝ) (z : ℝ) (b a : ℕ)
    (hb : ⌊interpIndex vs.length z⌋.toNat = b) (ha : ⌈interpIndex vs.length z⌉.toNat = a)
    (hb' : b < vs.length) (ha' : a < vs.length) :
    interpolate vs z = .ok (vs[b] * (1 - (interpIndex vs.length z - b)) + vs[a] * (interpIndex vs.length z - b)) := by
  unfold interpolate
  simp only [Nat.ne_zero_of_lt hb', if_false, lit_half, lit_one, Transc.ceil, Transc.floor, asUsize_real,
    Int.floor_intCast, Grid.lerp]
  have hi : (1 / 2 : ℝ) * (z + 1) * ((vs.length - 1 : ℕ) : ℝ) = interpIndex vs.length z := rfl
  rw [hi, hb, ha, List.getElem?_eq_getElem hb', List.getElem?_eq_getElem ha']

theorem interpolate_sample (vs : List ℝ) {z : ℝ} (k : ℕ) (hk : k < vs.length)
    (hi : interpIndex vs.length z = k) : interpolate vs z = .ok vs[k] := by
  rw [interpolate_eq vs z k k (by simp [hi]) (by simp [hi]) hk hk, hi]
  simp

/-- position of the point a fraction `t` of the way from sample `j` to sample `j+1` -/
noncomputable def interpPos (n j : ℕ) (t : ℝ) : ℝ := -1 + 2 * ((j : ℝ) + t) / ((n - 1 : ℕ) : ℝ)

theorem interpIndex_pos (n j : ℕ) (t : ℝ) (hn : 2 ≤ n) : interpIndex n (interpPos n j t) = j + t := by
  have : ((n - 1 : ℕ) : ℝ) ≠ 0 := Nat.cast_ne_zero.mpr (by omega)
  simp only [interpIndex, interpPos]; field_simp; ring

theorem interpPos_range (n j : ℕ) (t : ℝ) (hj : j + 1 < n) (ht : 0 ≤ t ∧ t ≤ 1) :
    -1 ≤ interpPos n j t ∧ interpPos n j t ≤ 1 := by
  have hpos : (0 : ℝ) < ((n - 1 : ℕ) : ℝ) := Nat.cast_pos.mpr (by omega)
  have hle : (j : ℝ) + 1 ≤ ((n - 1 : ℕ) : ℝ) := by exact_mod_cast (by omega : j + 1 ≤ n - 1)
  unfold interpPos
  constructor
  · exact le_add_of_nonneg_right
      (div_nonneg (mul_nonneg zero_le_two (add_nonneg j.cast_nonneg ht.1)) hpos.le)
  · have : 2 * ((j : ℝ) + t) / ((n - 1 : ℕ) : ℝ) ≤ 2 := (div_le_iff₀ hpos).mpr (by linarith [ht.2])
    linarith

theorem interpolate_linear (vs : List ℝ) (j : ℕ) (hj : j + 1 < vs.length) (t : ℝ)
    (ht : 0 ≤ t ∧ t ≤ 1) :
    interpolate vs (interpPos vs.length j t) = .ok (vs[j] * (1 - t) + vs[j + 1] * t) := by
  have hidx := interpIndex_pos vs.length j t (by omega)
  rcases eq_or_lt_of_le ht.1 with rfl | h0
  · rw [interpolate_sample vs j (by omega) (by rw [hidx, add_zero]), sub_zero, mul_one, mul_zero,
      add_zero]
  rcases eq_or_lt_of_le ht.2 with rfl | h1
  · rw [interpolate_sample vs (j + 1) hj (by rw [hidx, Nat.cast_succ]), sub_self, mul_zero,
      zero_add, mul_one]
  · -- strictly between two samples: `⌊j + t⌋ = j + ⌊t⌋ = j`, `⌈j + t⌉ = j + ⌈t⌉ = j + 1`
    have hfl : ⌊interpIndex vs.length (interpPos vs.length j t)⌋.toNat = j := by
      rw [hidx, Int.floor_natCast_add, Int.floor_eq_zero_iff.mpr ⟨h0.le, h1⟩, add_zero,
        Int.toNat_natCast]
    have hce : ⌈interpIndex vs.length (interpPos vs.length j t)⌉.toNat = j + 1 := by
      rw [hidx, Int.ceil_natCast_add,
        (Int.ceil_eq_iff (z := 1)).mpr ⟨by simpa using h0, by simpa using ht.2⟩,
        Int.toNat_natCast_add_one]
    rw [interpolate_eq vs _ j (j + 1) hfl hce (by omega) hj, hidx, add_sub_cancel_left]

theorem interpolate_single (v z : ℝ) : interpolate [v] z = .ok v :=
  interpolate_sample [v] 0 (by simp) (by simp [interpIndex])

theorem interpIndex_le (n : ℕ) {z : ℝ} (hz : z ≤ 1) : interpIndex n z ≤ ((n - 1 : ℕ) : ℝ) :=
  mul_le_of_le_one_left (Nat.cast_nonneg _) (by linarith)

theorem interpolate_isOk (vs : List ℝ) (z : ℝ) (hz : z ≤ 1) : ∃ v, interpolate vs z = .ok v := by
  rcases Nat.eq_zero_or_pos vs.length with h0 | hpos
  · rw [List.eq_nil_of_length_eq_zero h0]; exact ⟨1, interpolate_nil z⟩
  · -- `as usize` saturates at 0, so only `i ≤ n − 1` matters: `⌊i⌋ ≤ ⌈i⌉ ≤ n − 1`
    have ha : ⌈interpIndex vs.length z⌉₊ < vs.length :=
      lt_of_le_of_lt (Nat.ceil_le.mpr (interpIndex_le _ hz)) (by omega)
    exact ⟨_, interpolate_eq vs z _ _ rfl rfl
      (by rw [Int.floor_toNat]; exact lt_of_le_of_lt (Nat.floor_le_ceil _) ha)
      (by rw [Int.ceil_toNat]; exact ha)⟩

/-- the narrower duty-cycle fraction -/
noncomputable def dutyX (a : ℝ) : ℝ := Real.arccos (1 - 2 * a ^ 2) / (2 * Real.pi)

theorem domainPair_real (a z : ℝ) :
    domainPair a z = if 0 < z then (1 - dutyX a, dutyX a) else (dutyX a, 1 - dutyX a) := by
  simp [domainPair, dutyX, lit_one, lit_two, lit_zero, sq_real, twoPi_real, Transc.acos]

theorem dutyX_nonneg (a : ℝ) : 0 ≤ dutyX a :=
  div_nonneg (Real.arccos_nonneg _) (by positivity)

theorem dutyX_le_half (a : ℝ) : dutyX a ≤ 1 / 2 := by
  unfold dutyX
  rw [div_le_iff₀ (by positivity)]
  linarith [Real.arccos_le_pi (1 - 2 * a ^ 2)]

theorem dutyX_one : dutyX 1 = 1 / 2 := by
  have : (1 : ℝ) - 2 * 1 ^ 2 = -1 := by norm_num
  unfold dutyX
  rw [this, Real.arccos_neg_one]
  field_simp

/-- half-angle formula at `θ = arccos(1 − 2a²)` -/
theorem sin_pi_dutyX (a : ℝ) (ha : -1 ≤ a ∧ a ≤ 1) : Real.sin (Real.pi * dutyX a) = |a| := by
  have h2 : a ^ 2 ≤ 1 := (sq_le_one_iff_abs_le_one a).mpr (abs_le.mpr ha)
  have harg : Real.pi * dutyX a = Real.arccos (1 - 2 * a ^ 2) / 2 := by
    rw [dutyX, mul_comm 2, ← div_div, mul_div_cancel₀ _ Real.pi_ne_zero]
  rw [harg, Real.sin_half_eq_sqrt (Real.arccos_nonneg _)
    (by linarith [Real.arccos_le_pi (1 - 2 * a ^ 2), Real.pi_pos]),
    Real.cos_arccos (by linarith) (by linarith [sq_nonneg a]),
    show (1 - (1 - 2 * a ^ 2)) / 2 = a ^ 2 by ring, Real.sqrt_sq_eq_abs]

theorem domainCentre_real (i n : ℕ) : (domainCentre i n : ℝ) = -1 + (2 * (i : ℝ) + 1) / n := by
  simp only [domainCentre, Grid.lerp, lit_one, lit_half]
  ring

theorem domainCentre_range (i n : ℕ) (hi : i < n) :
    -1 < (domainCentre i n : ℝ) ∧ (domainCentre i n : ℝ) < 1 := by
  have hn : (0 : ℝ) < n := Nat.cast_pos.mpr (by omega)
  have hin : (i : ℝ) + 1 ≤ n := by exact_mod_cast hi
  rw [domainCentre_real]
  constructor
  · exact lt_add_of_pos_right _ (div_pos (by positivity) hn)
  · have : (2 * (i : ℝ) + 1) / n < 2 := (div_lt_iff₀ hn).mpr (by linarith)
    linarith

theorem domainCentre_mirror (i n : ℕ) (hi : i < n) :
    (domainCentre (n - 1 - i) n : ℝ) = -(domainCentre i n : ℝ) := by
  have hn : (n : ℝ) ≠ 0 := Nat.cast_ne_zero.mpr (by omega)
  rw [domainCentre_real, domainCentre_real, Nat.sub_sub, Nat.cast_sub (by omega)]
  push_cast
  field_simp; ring

theorem numDomains_on (period : ℝ) (sign : Sign) (w : Apod ℝ) (len : ℝ) :
    (PP.on period sign w).numDomains len = ⌈len / period⌉.toNat := by
  simp [PP.numDomains, Transc.ceil, asUsize_real]

theorem window_isOk (w : Apod ℝ) (z len : ℝ) (hz : -1 ≤ z ∧ z ≤ 1) : ∃ v, window w z len = .ok v := by
  rw [window_in_range w z len hz]
  cases w
  case interpolate vs => exact interpolate_isOk vs z hz.2
  all_goals exact ⟨_, rfl⟩

/-- the window value at the centre of domain `i` of `n` (total function: `0` stands for a panic,
which `window_isOk` excludes) -/
noncomputable def centreValue (w : Apod ℝ) (len : ℝ) (i n : ℕ) : ℝ :=
  match window w (domainCentre i n) len with
  | .ok a => a
  | _ => 0

theorem window_centre (w : Apod ℝ) (len : ℝ) (i n : ℕ) (hi : i < n) :
    window w (domainCentre i n) len = .ok (centreValue w len i n) := by
  obtain ⟨h1, h2⟩ := domainCentre_range i n hi
  obtain ⟨v, hv⟩ := window_isOk w (domainCentre i n) len ⟨h1.le, h2.le⟩
  simp [centreValue, hv]

theorem domains_foldr (w : Apod ℝ) (len : ℝ) (n : ℕ) (l : List ℕ) (hl : ∀ i ∈ l, i < n) :
    l.foldr (domainStep w len n) (Outcome.ok [])
      = Outcome.ok (l.map fun i => domainPair (centreValue w len i n) (domainCentre i n)) := by
  induction l with
  | nil => rfl
  | cons i l ih =>
    obtain ⟨hi, hl⟩ := List.forall_mem_cons.mp hl
    simp only [List.foldr_cons, ih hl, domainStep, window_centre w len i n hi, List.map_cons]

theorem polingDomains_on (period : ℝ) (sign : Sign) (w : Apod ℝ) (len : ℝ) :
    (PP.on period sign w).polingDomains len
      = .ok ((List.range ⌈len / period⌉.toNat).map fun i =>
          domainPair (centreValue w len i ⌈len / period⌉.toNat) (domainCentre i ⌈len / period⌉.toNat)) := by
  simp only [PP.polingDomains, numDomains_on]
  exact domains_foldr w len _ _ fun _ => List.mem_range.mp

/-- stored magnitude is positive (the sign convention follows, see `sign_iff`) -/
def PP.Inv : PP ℝ → Prop
  | .off => True
  | .on period _ _ => 0 < period

theorem Sign.mul_pos_real (x : ℝ) : Sign.mul .pos x = x := by simp [Sign.mul, lit_one]
theorem Sign.mul_neg_real (x : ℝ) : Sign.mul .neg x = -x := by simp [Sign.mul, lit_one]

theorem new_on (p : ℝ) (w : Apod ℝ) : PP.new p w = .on |p| (if 0 < p then .pos else .neg) w := by
  simp only [PP.new, lit_zero]
  split_ifs with h
  · rw [abs_of_pos h]
  · rw [abs_of_nonpos (not_lt.mp h)]

theorem new_signed (p : ℝ) (w : Apod ℝ) : (PP.new p w).signedPeriod? = some p := by
  simp only [PP.new, PP.signedPeriod?]
  split_ifs
  · rw [Sign.mul_pos_real]
  · rw [Sign.mul_neg_real, neg_neg]

theorem new_inv (p : ℝ) (w : Apod ℝ) (hp : p ≠ 0) : (PP.new p w).Inv := by
  rw [new_on]; exact abs_pos.mpr hp

theorem sign_iff (period : ℝ) (sign : Sign) (hp : 0 < period) :
    (sign = .neg ↔ sign.mul period < 0) ∧ |sign.mul period| = period := by
  cases sign
  · simp [Sign.mul_pos_real, abs_of_pos hp, hp.le]
  · simp [Sign.mul_neg_real, abs_of_pos hp, hp]

theorem withApodization_on (period : ℝ) (sign : Sign) (w0 w : Apod ℝ) (hp : 0 < period) :
    (PP.on period sign w0).withApodization w = .on period sign w := by
  show PP.new (sign.mul period) w = _
  rw [new_on]
  cases sign
  · simp [Sign.mul_pos_real, hp, abs_of_pos]
  · simp [Sign.mul_neg_real, not_lt.mpr hp.le, abs_of_pos hp]

theorem assignPeriod_on (period : ℝ) (sign : Sign) (w : Apod ℝ) (p : ℝ) :
    (PP.on period sign w).assignPeriod p = PP.new p w := by
  rw [new_on]; simp only [PP.assignPeriod, Transc.abs, lit_zero]

theorem withPeriod_eq (p : PP ℝ) (q : ℝ) : p.withPeriod q = PP.new q p.apodization := by
  cases p <;> rfl

/-- requested period of an operation, if it requests one -/
def Op.period? : Op ℝ → Option ℝ
  | .new p _ => some p
  | .withPeriod p => some p
  | .assignPeriod p => some p
  | _ => none

theorem step_inv (p : PP ℝ) (o : Op ℝ) (hp : p.Inv) (ho : ∀ q, o.period? = some q → q ≠ 0) :
    (p.step o).Inv := by
  cases o with
  | new q w => exact new_inv q w (ho q rfl)
  | withPeriod q => rw [PP.step, withPeriod_eq]; exact new_inv q _ (ho q rfl)
  | assignPeriod q =>
    cases p with
    | off => trivial
    | on per s w => rw [PP.step, assignPeriod_on]; exact new_inv q _ (ho q rfl)
  | setApodization w | withApodization w =>
    cases p with
    | off => trivial
    | on per s w0 => rw [PP.step, withApodization_on per s w0 w hp]; exact hp

theorem run_inv (ops : List (Op ℝ)) (p : PP ℝ) (hp : p.Inv)
    (ho : ∀ o ∈ ops, ∀ q, o.period? = some q → q ≠ 0) : (p.run ops).Inv :=
  List.foldlRecOn ops PP.step hp fun p hp o hmem => step_inv p o hp (ho o hmem)

theorem kEff_on (period : ℝ) (sign : Sign) (w : Apod ℝ) (hp : 0 < period) :
    (PP.on period sign w).kEff = .ok (2 * Real.pi / sign.mul period) := by
  simp [PP.kEff, lit_zero, hp, twoPi_real, lit_one]

end Spdc.Poling
