import Spdc.Model.Config
import Spdc.Real.Inst
/-!
# ℝ-side lemmas for the configuration model: units, `sigfigs`, angle normalisation, wavelength ↔ frequency,
the signed period (`signMul`) and what `Poling.new` stores of it (`Poling.new_signMul`)
-/
namespace Spdc.Cfg

theorem pi_eq : (Transc.pi : ℝ) = Real.pi := rfl
theorem abs_eq (x : ℝ) : Transc.abs x = |x| := rfl

theorem twoPi_eq : (twoPi : ℝ) = 2 * Real.pi := by
  unfold twoPi; rw [pi_eq, lit_two]

theorem twoPi_pos : (0 : ℝ) < twoPi := by rw [twoPi_eq]; positivity

theorem deg_eq : (deg : ℝ) = Real.pi / 180 := by
  rw [deg, pi_eq, lit_two, show (360.0 : ℝ) = 360 by norm_num]; ring

theorem deg_pos : (0 : ℝ) < deg := by rw [deg_eq]; positivity
theorem deg_180 : (180 : ℝ) * deg = Real.pi := by rw [deg_eq]; ring
theorem deg_ne : (deg : ℝ) ≠ 0 := deg_pos.ne'

theorem micro_eq : (micro : ℝ) = 1 / 1000000 := by unfold micro; norm_num
theorem micro_pos : (0 : ℝ) < micro := by rw [micro_eq]; norm_num
theorem micro_ne : (micro : ℝ) ≠ 0 := micro_pos.ne'
theorem nano_eq : (nano : ℝ) = 1 / 1000000000 := by unfold nano; norm_num
theorem nano_pos : (0 : ℝ) < nano := by rw [nano_eq]; norm_num
theorem nano_ne : (nano : ℝ) ≠ 0 := nano_pos.ne'
theorem pmPerVolt_ne : (pmPerVolt : ℝ) ≠ 0 := by unfold pmPerVolt; norm_num
theorem twoPiC_eq : (twoPiC : ℝ) = 2 * Real.pi * 299792458 := by
  rw [twoPiC, twoPi_eq, lit_cLight]
theorem twoPiC_ne : (twoPiC : ℝ) ≠ 0 := by rw [twoPiC_eq]; positivity

theorem unit_roundtrip (v u : ℝ) (hu : u ≠ 0) : v * u / u = v := mul_div_cancel_right₀ v hu

theorem deg_roundtrip (v : ℝ) : v * deg / deg = v := unit_roundtrip v deg deg_ne
theorem micro_roundtrip (v : ℝ) : v * micro / micro = v := unit_roundtrip v micro micro_ne
theorem nano_roundtrip (v : ℝ) : v * nano / nano = v := unit_roundtrip v nano nano_ne
theorem toDeff_eq (v : ℝ) : toDeff v = v * pmPerVolt := by
  unfold toDeff pmPerVolt; exact mul_div_assoc v _ _
theorem toDeff_roundtrip (v : ℝ) : toDeff v / pmPerVolt = v := by
  rw [toDeff_eq]; exact unit_roundtrip v _ pmPerVolt_ne
theorem kelvin_roundtrip (v : ℝ) : v + kelvin0 - kelvin0 = v := by ring
/-- the sweep setter's `v * MILLI * W` (`W = 1000`: UCUM's base unit is the gram) read back as `/ MILLIW` (`= 1`) -/
theorem mw_roundtrip (v : ℝ) : v * (1.0e-3 : ℝ) * (1000.0 : ℝ) / (1.0 : ℝ) = v := by norm_num; ring
theorem one_roundtrip (v : ℝ) : v * (1.0 : ℝ) / (1.0 : ℝ) = v := by norm_num

theorem round_eq_floor (x : ℝ) :
    Transc.round x = if 0 ≤ x then ((⌊x + 1 / 2⌋ : ℤ) : ℝ) else ((⌈x - 1 / 2⌉ : ℤ) : ℝ) := rfl

/-- `f64::round` (half away from zero) is Mathlib's `round` (half up) mirrored at 0 -/
theorem round_eq (y : ℝ) :
    Transc.round y = if 0 ≤ y then ((round y : ℤ) : ℝ) else -((round (-y) : ℤ) : ℝ) := by
  rw [round_eq_floor, _root_.round_eq, _root_.round_eq, ← Int.cast_neg, ← Int.ceil_neg]
  congr 3; ring

theorem round_isInt (x : ℝ) : ∃ n : ℤ, Transc.round x = (n : ℝ) := by
  rw [round_eq_floor]; split
  · exact ⟨_, rfl⟩
  · exact ⟨_, rfl⟩

theorem round_intCast (n : ℤ) : Transc.round (n : ℝ) = (n : ℝ) := by
  rw [round_eq, ← Int.cast_neg n, _root_.round_intCast, _root_.round_intCast, Int.cast_neg, neg_neg,
    ite_self]

theorem round_close (y : ℝ) : |Transc.round y - y| ≤ 1 / 2 := by
  rw [round_eq]
  split
  · rw [abs_sub_comm]; exact abs_sub_round y
  · rw [neg_sub_comm]; exact abs_sub_round (-y)

theorem round_nonneg {y : ℝ} (h : 0 ≤ y) : 0 ≤ Transc.round y := by
  rw [round_eq_floor, if_pos h]
  exact Int.cast_nonneg (Int.floor_nonneg.mpr (by linarith))

theorem round_nonpos {y : ℝ} (h : y ≤ 0) : Transc.round y ≤ 0 := by
  rw [round_eq_floor]
  split
  · exact Int.cast_nonpos.mpr (Int.lt_add_one_iff.mp (Int.floor_lt.mpr (by push_cast; linarith)))
  · exact Int.cast_nonpos.mpr (Int.ceil_le.mpr (by push_cast; linarith))

theorem sigfigs_eq (x : ℝ) : sigfigs x = Transc.round (x * 10000) / 10000 := by
  unfold sigfigs; norm_num

theorem sigfigs_grid (x : ℝ) : ∃ n : ℤ, sigfigs x = (n : ℝ) / 10000 := by
  obtain ⟨n, hn⟩ := round_isInt (x * 10000)
  exact ⟨n, by rw [sigfigs_eq, hn]⟩

theorem sigfigs_of_grid (n : ℤ) : sigfigs ((n : ℝ) / 10000) = (n : ℝ) / 10000 := by
  rw [sigfigs_eq, div_mul_cancel₀ _ (by norm_num : (10000 : ℝ) ≠ 0), round_intCast]

theorem sigfigs_idem (x : ℝ) : sigfigs (sigfigs x) = sigfigs x := by
  obtain ⟨n, hn⟩ := sigfigs_grid x
  rw [hn, sigfigs_of_grid]

theorem sigfigs_nonneg {x : ℝ} (h : 0 ≤ x) : 0 ≤ sigfigs x := by
  rw [sigfigs_eq]
  exact div_nonneg (round_nonneg (mul_nonneg h (by norm_num))) (by norm_num)

theorem sigfigs_nonpos {x : ℝ} (h : x ≤ 0) : sigfigs x ≤ 0 := by
  rw [sigfigs_eq]
  exact div_nonpos_of_nonpos_of_nonneg
    (round_nonpos (mul_nonpos_of_nonpos_of_nonneg h (by norm_num))) (by norm_num)

theorem trunc_of_abs_lt_one {x : ℝ} (h : |x| < 1) : trunc x = 0 := by
  obtain ⟨h0, h1⟩ := abs_lt.mp h
  unfold trunc
  rw [lit_zero]
  split
  · show ((⌈x⌉ : ℤ) : ℝ) = 0
    rw [Int.ceil_eq_zero_iff.mpr ⟨h0, le_of_lt ‹x < 0›⟩, Int.cast_zero]
  · show ((⌊x⌋ : ℤ) : ℝ) = 0
    rw [Int.floor_eq_zero_iff.mpr ⟨not_lt.mp ‹¬x < 0›, h1⟩, Int.cast_zero]

theorem trunc_one : trunc (1 : ℝ) = 1 := by
  unfold trunc
  rw [if_neg (by rw [lit_zero]; norm_num)]
  show ((⌊(1 : ℝ)⌋ : ℤ) : ℝ) = 1
  rw [Int.floor_one, Int.cast_one]

theorem remEuclid_of_abs_lt {x m : ℝ} (hm : 0 < m) (h : |x| < m) :
    remEuclid x m = if x < 0 then x + m else x := by
  unfold remEuclid
  have : trunc (x / m) = 0 :=
    trunc_of_abs_lt_one (by rwa [abs_div, abs_of_pos hm, div_lt_one hm])
  simp only [this, mul_zero, sub_zero, lit_zero, abs_eq, abs_of_pos hm]

theorem remEuclid_of_mem {x m : ℝ} (h0 : 0 ≤ x) (h1 : x < m) : remEuclid x m = x := by
  rw [remEuclid_of_abs_lt (h0.trans_lt h1) (by rwa [abs_of_nonneg h0]), if_neg (not_lt.mpr h0)]

theorem remEuclid_self {m : ℝ} (hm : 0 < m) : remEuclid m m = 0 := by
  unfold remEuclid
  simp only [div_self hm.ne', trunc_one, mul_one, sub_self, lit_zero, lt_irrefl, if_false]

theorem normAngle_of_mem {x : ℝ} (h0 : 0 ≤ x) (h1 : x < 2 * Real.pi) : normAngle x = x :=
  remEuclid_of_mem h0 (by rw [twoPi_eq]; exact h1)

theorem normAngleSigned_of_mem {x : ℝ} (h0 : -Real.pi < x) (h1 : x ≤ Real.pi) :
    normAngleSigned x = x := by
  have hpi := Real.pi_pos
  have h2 : (twoPi : ℝ) = 2 * Real.pi := twoPi_eq
  have hr : remEuclid x twoPi = if x < 0 then x + twoPi else x :=
    remEuclid_of_abs_lt twoPi_pos (abs_lt.mpr ⟨by linarith, by linarith⟩)
  unfold normAngleSigned
  simp only [hr, pi_eq]
  by_cases hx : x < 0
  · rw [if_pos hx, if_pos (by linarith)]; ring
  · rw [if_neg hx, if_neg (by linarith)]

theorem phi_readback {v : ℝ} (h : 0 ≤ v ∧ v < 360) : normAngle (v * deg) / deg = v := by
  rw [normAngle_of_mem (mul_nonneg h.1 deg_pos.le)
    (by linarith [mul_lt_mul_of_pos_right h.2 deg_pos, deg_180]), deg_roundtrip]

theorem theta_readback {v : ℝ} (h : -180 < v ∧ v ≤ 180) : normAngleSigned (v * deg) / deg = v := by
  rw [normAngleSigned_of_mem (by linarith [mul_lt_mul_of_pos_right h.1 deg_pos, deg_180])
    (by linarith [mul_le_mul_of_nonneg_right h.2 deg_pos.le, deg_180]), deg_roundtrip]

theorem normAngle_zero : normAngle (0.0 : ℝ) = 0 := by
  rw [lit_zero]; exact normAngle_of_mem le_rfl (by positivity)

theorem normAngleSigned_zero : normAngleSigned (0.0 : ℝ) = 0 := by
  rw [lit_zero]; exact normAngleSigned_of_mem (by linarith [Real.pi_pos]) Real.pi_pos.le

theorem wrap360_of_mem {x : ℝ} (h0 : 0 ≤ x) (h1 : x < 360) : wrap360 x = x :=
  remEuclid_of_mem h0 (by norm_num; exact h1)

theorem wrap360_360 : wrap360 (360 : ℝ) = 0 := by
  unfold wrap360
  rw [show (360.0 : ℝ) = 360 by norm_num]
  exact remEuclid_self (by norm_num)

theorem wlToFreq_eq (lam : ℝ) : wlToFreq lam = twoPiC / lam := by
  unfold wlToFreq; rw [lit_one, mul_one]
theorem freqToWl_eq (om : ℝ) : freqToWl om = twoPiC / om := by
  unfold freqToWl; rw [lit_one, mul_one]

theorem wl_roundtrip (lam : ℝ) : freqToWl (wlToFreq lam) = lam := by
  rw [freqToWl_eq, wlToFreq_eq, div_div_cancel₀ twoPiC_ne]

theorem signMul_eq (neg : Bool) (x : ℝ) : signMul neg x = if neg then -x else x := by
  cases neg <;> simp [signMul, lit_one]

theorem signMul_mul (neg : Bool) (x m : ℝ) : signMul neg x * m = signMul neg (x * m) := by
  cases neg <;> simp [signMul_eq]

/-- `period > 0` fails for `±0`, which `PeriodicPoling::new` therefore stores as negative -/
theorem Poling.new_signMul {q : ℝ} (hq : 0 ≤ q) (neg : Bool) (a : Apod ℝ) :
    Poling.new (signMul neg q) a = .on q (if 0 < q then neg else true) a := by
  unfold Poling.new
  rw [signMul_eq, lit_zero]
  cases neg
  · rcases hq.lt_or_eq with h | rfl
    · simp [h]
    · simp
  · have h : ¬ 0 < -q := by linarith
    simp [h]

theorem Poling.new_signMul_toCfg {q : ℝ} (hq : 0 ≤ q) (neg : Bool) (a : Apod ℝ) :
    (Poling.new (signMul neg q) a).toCfg = .config (.param (sigfigs (q / micro))) a.toCfg := by
  rw [Poling.new_signMul hq]; rfl

end Spdc.Cfg
