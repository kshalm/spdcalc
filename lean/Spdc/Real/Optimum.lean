import Spdc.Model.Optimum
import Spdc.Real.Inst
import Spdc.Real.Outcome
/-!
# Lemmas for C20: the wiring of `try_as_optimum` (any scalar), the normalised accessors at ℝ
-/
namespace Spdc.Optimum

section wiring
variable {α A : Type}

theorem setAngles_setAngles (ext : Ext α A) (b : Beam α) (p t p' t' : α) :
    (b.setAngles ext p t).setAngles ext p' t' = b.setAngles ext p' t' := rfl

theorem setAngles_theta (ext : Ext α A) (b : Beam α) (p t : α) :
    (b.setAngles ext p t).theta = (ext.setAngles p t).2.1 := rfl

theorem finishOptimum_ok {ext : Ext α A} {s o : Setup α A} {sig : Beam α} {cs : Crystal α} {pp : PP α A}
    (h : finishOptimum ext s sig cs pp = .ok o) :
    ∃ i0, ext.optimumIdler sig s.pump cs pp = .ok i0 ∧
      o = { s with signal := sig, idler := { i0 with wx := s.idler.wx, wy := s.idler.wy }, cs := cs, pp := pp,
                   zs := ext.optimalWaistPosition cs sig.freq sig.pol,
                   zi := ext.optimalWaistPosition cs i0.freq i0.pol } := by
  obtain ⟨i0, hi, h⟩ := Outcome.bind_eq_ok.mp h
  exact ⟨i0, hi, (Outcome.ok.inj h).symm⟩

theorem finishOptimum_stores {ext : Ext α A} {s o : Setup α A} {sig : Beam α} {cs : Crystal α}
    {pp : PP α A} (h : finishOptimum ext s sig cs pp = .ok o) :
    o.signal = sig ∧ o.cs = cs ∧ o.pp = pp ∧ o.pump = s.pump := by
  obtain ⟨_, -, rfl⟩ := finishOptimum_ok h
  exact ⟨rfl, rfl, rfl, rfl⟩

/-- `finishOptimum` reads of the setup only the pump and the idler's waist, and leaves both alone -/
theorem finishOptimum_idem {ext : Ext α A} {s o : Setup α A} {sig : Beam α} {cs : Crystal α} {pp : PP α A}
    (h : finishOptimum ext s sig cs pp = .ok o) : finishOptimum ext o sig cs pp = .ok o := by
  obtain ⟨i0, hi, rfl⟩ := finishOptimum_ok h
  unfold finishOptimum
  rw [hi]; rfl

variable [Neg α] [OfScientific α] [LT α] [DecidableLT α]

theorem PP.new_apod (p : α) (a : A) : ∃ q n, (PP.new p a : PP α A) = .on q n a := by
  unfold PP.new; split
  · exact ⟨_, _, rfl⟩
  · exact ⟨_, _, rfl⟩

theorem tryAsOptimum_off (ext : Ext α A) (s : Setup α A) (h : s.pp = .off) :
    tryAsOptimum ext s =
      (ext.optimumTheta s.cs (resetSignal ext s) s.pump).bind fun θ =>
        finishOptimum ext s (resetSignal ext s) { s.cs with theta := θ } .off := by
  unfold tryAsOptimum; rw [h]

theorem tryAsOptimum_on (ext : Ext α A) (s : Setup α A) {p0 : α} {n0 : Bool} {a : A}
    (h : s.pp = .on p0 n0 a) :
    tryAsOptimum ext s =
      (ext.optimumPolingPeriod (resetSignal ext s) s.pump s.cs).bind fun p =>
        finishOptimum ext s (resetSignal ext s) s.cs (PP.new p a) := by
  unfold tryAsOptimum; rw [h]

omit [Neg α] in
/-- `hcp`: the two reset angles sit on the right sides of 90° -/
theorem resetSignal_idem (ext : Ext α A) (s o : Setup α A)
    (hsig : o.signal = resetSignal ext s) (hcs : o.cs.counterProp = s.cs.counterProp)
    (hcp : s.cs.counterProp = true →
      (ext.setAngles (ext.deg (0.0 : α)) (ext.deg (0.0 : α))).2.1 < ext.deg (90.0 : α) ∧
      ¬ (ext.setAngles (ext.deg (0.0 : α)) (ext.deg (180.0 : α))).2.1 < ext.deg (90.0 : α)) :
    resetSignal ext o = o.signal := by
  unfold resetSignal at hsig ⊢
  rw [hcs]
  by_cases hc : s.cs.counterProp = true
  · obtain ⟨h0, h180⟩ := hcp hc
    simp only [hc, if_true] at hsig ⊢
    by_cases hlt : s.signal.theta < ext.deg (90.0 : α)
    · simp only [hlt, if_true] at hsig
      rw [hsig, setAngles_theta]; simp only [h0, if_true]; rfl
    · simp only [hlt, if_false] at hsig
      rw [hsig, setAngles_theta]; simp only [h180, if_false]; rfl
  · simp only [hc] at hsig ⊢
    rw [hsig]; rfl

end wiring

@[simp] theorem isZero_real (x : ℝ) : isZero x = true ↔ x = 0 := by
  simp [isZero, lit_zero]

theorem isZero_real_false (x : ℝ) : isZero x = false ↔ x ≠ 0 := by
  rw [← Bool.not_eq_true, isZero_real]

theorem cx_zero_iff (a : Cx ℝ) : (isZero a.re && isZero a.im) = true ↔ a.toC = 0 := by
  rw [Bool.and_eq_true, isZero_real, isZero_real, Complex.ext_iff]; rfl

section accessors
variable {A I : Type} (sx : SpecExt ℝ A I)

theorem refAmplitude_nonneg (o : Setup ℝ A) (integ : I) : 0 ≤ refAmplitude sx o integ := by
  unfold refAmplitude
  exact mul_nonneg (Real.sqrt_nonneg _) (by rw [Cx.abs_eq]; exact norm_nonneg _)

theorem refAmplitude_pos (o : Setup ℝ A) (integ : I)
    (ha : (sx.jsaRaw o.signal.freq o.idler.freq o integ).toC ≠ 0)
    (hn : 0 < sx.jsiNorm o.signal.freq o.idler.freq o) : 0 < refAmplitude sx o integ := by
  unfold refAmplitude
  exact mul_pos (Real.sqrt_pos.mpr hn) (by rw [Cx.abs_eq]; exact norm_pos_iff.mpr ha)

theorem jsa_toC (js : JointSpectrum ℝ A I) (ws wi : ℝ) :
    (js.jsa sx ws wi).toC =
      (Real.sqrt (sx.jsiNorm ws wi js.spdc) : ℂ) * (sx.jsaRaw ws wi js.spdc js.integ).toC := by
  simp only [JointSpectrum.jsa]
  split_ifs with hz
  · rw [(cx_zero_iff _).mp hz]; simp
  · simp [Transc.sqrt]

theorem jsi_eq (js : JointSpectrum ℝ A I) (ws wi : ℝ) :
    js.jsi sx ws wi =
      sx.jsiNorm ws wi js.spdc * Complex.normSq (sx.jsaRaw ws wi js.spdc js.integ).toC := by
  rw [← Cx.normSq_eq]
  exact ite_zero_guard fun hz => by rw [Cx.normSq_eq, (cx_zero_iff _).mp hz, map_zero, mul_zero]

theorem jsiSingles_eq (js : JointSpectrum ℝ A I) (ws wi : ℝ) :
    js.jsiSingles sx ws wi = sx.jsiSinglesNorm ws wi js.spdc * sx.jsiSinglesRaw ws wi js.spdc js.integ :=
  ite_zero_guard fun hz => by rw [(isZero_real _).mp hz, mul_zero]

theorem JointSpectrum.new_eq_ok {ext : Ext ℝ A} {s o : Setup ℝ A} (integ : I)
    (h : tryAsOptimum ext s = .ok o) :
    JointSpectrum.new ext sx s integ = .ok ⟨s, integ, refAmplitude sx o integ, refSingles sx o integ⟩ := by
  unfold JointSpectrum.new; rw [h]

theorem refAmplitude_sq (o : Setup ℝ A) (integ : I)
    (hn : 0 ≤ sx.jsiNorm o.signal.freq o.idler.freq o) :
    refAmplitude sx o integ ^ 2 =
      sx.jsiNorm o.signal.freq o.idler.freq o * (sx.jsaRaw o.signal.freq o.idler.freq o integ).normSq :=
  (pow_two _).trans (Cx.sqrt_mul_abs_mul_self hn _)

/-- of whatever spectrum object holds that setup and integrator: the accessors do not read the stored
references -/
theorem refAmplitude_eq_norm_jsa (js : JointSpectrum ℝ A I) :
    refAmplitude sx js.spdc js.integ = ‖(js.jsa sx js.spdc.signal.freq js.spdc.idler.freq).toC‖ := by
  rw [jsa_toC, norm_mul, Complex.norm_real, Real.norm_of_nonneg (Real.sqrt_nonneg _), ← Cx.abs_eq]; rfl

theorem refAmplitude_sq_eq_jsi (js : JointSpectrum ℝ A I)
    (hn : 0 ≤ sx.jsiNorm js.spdc.signal.freq js.spdc.idler.freq js.spdc) :
    refAmplitude sx js.spdc js.integ ^ 2 = js.jsi sx js.spdc.signal.freq js.spdc.idler.freq := by
  rw [jsi_eq, ← Cx.normSq_eq, refAmplitude_sq sx _ _ hn]

theorem refSingles_eq_jsiSingles (js : JointSpectrum ℝ A I) :
    refSingles sx js.spdc js.integ = js.jsiSingles sx js.spdc.signal.freq js.spdc.idler.freq := by
  rw [jsiSingles_eq]; rfl

theorem jsiValueNormalized_eq (integ : I) (c : ℝ) (st : Setup ℝ A) :
    jsiValueNormalized sx integ c st = jsiValue sx integ st / c := by
  simp only [jsiValueNormalized, jsiValue]
  split_ifs with hz
  · simp [lit_zero]
  · rw [mul_div_assoc]

theorem sweepRef_eq_sq (integ : I) (o : Setup ℝ A)
    (hn : 0 ≤ sx.jsiNorm o.signal.freq o.idler.freq o) :
    sweepRef sx integ o = (refAmplitude sx o integ) ^ 2 := by
  rw [refAmplitude_sq sx o integ hn, mul_comm]; rfl

end accessors

end Spdc.Optimum
