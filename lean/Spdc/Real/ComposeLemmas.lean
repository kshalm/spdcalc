import Spdc.Model.Compose
import Spdc.Real.Jsa
import Spdc.Real.DeltaK
import Spdc.Real.Beam
import Spdc.Real.Poling
import Spdc.Real.Outcome
/-!
The composed model (`Model/Compose.lean`) over ℝ: how the composition commutes with exchange of signal and
idler, scaling of pump power / `deff` and the support test, and how the adapters between the layers' record
types relate (`DeltaK.kEff (ppDK p)` and `p.kEff` succeed with the same values, `kEff_ppDK`; `DeltaK`'s and
`Units`' spellings of `2πc/x` — the `Cfg` one is `vacuumWavelength_beamOfCfg` in `ComposeAutoLemmas`).  The
spectra share one shape, `onSupport`, about which the three operations are proved once.
-/
namespace Spdc.Compose
open Spdc.Outcome

theorem pmDK_idlerPol (t : PM.PMType) : polOfDK (pmDK t).idlerPol = polIndex t.idlerPol := by
  cases t <;> rfl

theorem polPM_polIndex (p : PM.Pol) : polPM (polIndex p) = p := by cases p <;> rfl

/-- C03's and C19's models of `k_eff`; an equivalence on values, not an equation, because their panic texts
differ -/
theorem kEff_ppDK {p : Poling.PP ℝ} {ke : ℝ} : DeltaK.kEff (ppDK p) = .ok ke ↔ p.kEff = .ok ke := by
  cases p with
  | off => simp [ppDK, DeltaK.kEff, Poling.PP.kEff]
  | on period sign apod =>
    by_cases hp : (0.0 : ℝ) < period <;> cases sign <;>
      simp [ppDK, DeltaK.kEff, Poling.PP.kEff, DeltaK.signMul, Poling.Sign.mul, DeltaK.twoPi,
        Poling.twoPi, lit_one, hp]

theorem wavelengthOfFreq_units (ω : ℝ) :
    DeltaK.wavelengthOfFreq ω = Units.frequencyToVacuumWavelength ω := by
  rw [DeltaK.wavelengthOfFreq_eq, Units.frequencyToVacuumWavelength_eq, DeltaK.c0, lit_cLight]

theorem freqOfWavelength_units (l : ℝ) :
    DeltaK.freqOfWavelength l = Units.vacuumWavelengthToFrequency l := by
  rw [DeltaK.freqOfWavelength_eq, Units.vacuumWavelengthToFrequency_eq, DeltaK.c0, lit_cLight]

theorem omegaP_eq (S : Setup ℝ) : omegaP S = Units.vacuumWavelengthToFrequency S.lamP := rfl

theorem omegaP_formula (S : Setup ℝ) : omegaP S = 2 * Real.pi * 299792458 / S.lamP :=
  Units.vacuumWavelengthToFrequency_eq S.lamP

theorem signal_frequency (S : Setup ℝ) :
    (signalBeam S).frequency = Units.vacuumWavelengthToFrequency S.sig.lam := rfl

theorem pump_direction (S : Setup ℝ) : (pumpBeam S).direction = ⟨0, 0, 1⟩ :=
  Beam.step_intoPump_direction _

theorem pump_wavelength (S : Setup ℝ) : Beam.vacuumWavelength (pumpBeam S) = S.lamP :=
  Units.wavelength_roundtrip _

theorem signal_wavelength (S : Setup ℝ) :
    Beam.vacuumWavelength (signalBeam S) = S.sig.lam :=
  Units.wavelength_roundtrip _

theorem idlerBeam_auto (S : Setup ℝ) (h : S.idlerAuto = true) (i : Beam.Beam ℝ)
    (hi : idlerBeam S = .ok i) :
    ∃ o, DeltaK.optimumIdler (idlerIn S) = .ok o ∧ i = beamOfIdlerOut S o := by
  simp only [idlerBeam, h, if_true, autoIdler, map_eq_ok] at hi
  obtain ⟨o, ho, rfl⟩ := hi
  exact ⟨o, ho, rfl⟩

theorem signalBeam_swap (S : Setup ℝ) : signalBeam S.swap = explicitIdler S := by
  simp only [signalBeam, explicitIdler, Setup.swap, PM.PMType.inverse_signalPol]

theorem explicitIdler_swap (S : Setup ℝ) : explicitIdler S.swap = signalBeam S := by
  simp only [signalBeam, explicitIdler, Setup.swap, PM.PMType.inverse_idlerPol]

theorem pumpBeam_swap (S : Setup ℝ) : pumpBeam S.swap = pumpBeam S := by
  simp only [pumpBeam, Setup.swap, PM.PMType.inverse_pumpPol]

theorem refractiveIndex_swap (S : Setup ℝ) (b : Beam.Beam ℝ) : refractiveIndex S.swap b = refractiveIndex S b := rfl

theorem pmBeam_swap (S : Setup ℝ) (b : Beam.Beam ℝ) (z0 : ℝ) : pmBeam S.swap b z0 = pmBeam S b z0 := rfl

theorem walkoff_swap (S : Setup ℝ) : walkoff S.swap = walkoff S := by
  unfold walkoff
  rw [pumpBeam_swap]
  rfl

theorem kEff_swap (S : Setup ℝ) : kEff S.swap = kEff S := rfl

theorem idlerBeam_explicit (S : Setup ℝ) (h : S.idlerAuto = false) : idlerBeam S = .ok (explicitIdler S) := by
  simp [idlerBeam, h]

theorem jsetupOf_swap (S : Setup ℝ) (rho ke : ℝ) :
    jsetupOf S.swap (signalBeam S) rho ke = (jsetupOf S (explicitIdler S) rho ke).swap := by
  simp only [jsetupOf, pmSetupOf, PM.JSetup.swap, PM.Setup.swap, signalBeam_swap, pumpBeam_swap,
    pmBeam_swap, refractiveIndex_swap]
  rfl

theorem jsetup_swap (S : Setup ℝ) (h : S.idlerAuto = false) :
    jsetup S.swap = (jsetup S).map PM.JSetup.swap := by
  unfold jsetup
  rw [idlerBeam_explicit S h, idlerBeam_explicit S.swap h, walkoff_swap, kEff_swap, explicitIdler_swap]
  simp only [bind_ok, map_bind, map_ok, jsetupOf_swap]

theorem omegaP_swap (S : Setup ℝ) : omegaP S.swap = omegaP S := by
  unfold omegaP; rw [pumpBeam_swap]

theorem offSupport_swap (S : Setup ℝ) (ωs ωi : ℝ) : offSupport S.swap ωi ωs = offSupport S ωs ωi := by
  unfold offSupport pumpAmplitude
  rw [omegaP_swap, PM.invalidFrequencies_comm, add_comm ωi ωs]
  rfl

theorem jsetup_scaled (S : Setup ℝ) (a b : ℝ) :
    jsetup (S.scaled a b) = (jsetup S).map fun J => J.scaled a b := by
  unfold jsetup
  simp only [map_bind, map_ok]
  rfl

theorem offSupport_scaled (S : Setup ℝ) (a b ωs ωi : ℝ) :
    offSupport (S.scaled a b) ωs ωi = offSupport S ωs ωi := rfl

theorem jsetup_ok {S : Setup ℝ} {J : PM.JSetup ℝ} (h : jsetup S = .ok J) :
    ∃ i rho ke, idlerBeam S = .ok i ∧ walkoff S = .ok rho ∧ kEff S = .ok ke ∧ J = jsetupOf S i rho ke := by
  simp only [jsetup, bind_eq_ok, Outcome.ok.injEq] at h
  obtain ⟨i, hi, rho, hw, ke, hk, rfl⟩ := h
  exact ⟨i, rho, ke, hi, hw, hk, rfl⟩

theorem jsetup_pump {S : Setup ℝ} {J : PM.JSetup ℝ} (h : jsetup S = .ok J) :
    J.omegaP = omegaP S ∧ J.bandwidth = S.bandwidth ∧ J.threshold = S.threshold := by
  obtain ⟨i, rho, ke, -, -, -, rfl⟩ := jsetup_ok h
  exact ⟨rfl, rfl, rfl⟩

theorem offSupport_iff (S : Setup ℝ) (ωs ωi : ℝ) :
    offSupport S ωs ωi = true ↔
      (pumpAmplitude S (ωs + ωi) < S.threshold ∨ ωs ≤ 0 ∨ ωi ≤ 0 ∨ omegaP S < ωs ∨ omegaP S < ωi
        ∨ 3 / 4 * omegaP S < |ωs - ωi|) := by
  unfold offSupport
  rw [Bool.or_eq_true, decide_eq_true_iff, PM.invalidFrequencies_iff]
  exact or_comm

/-- the shape shared by the composed `jsaRaw`, `jsa`, `jsi`, `jsiSingles`, `jsiSinglesRaw`: off the support the
literal zero `z` and nothing else is evaluated; on it the layer function `F` of the joint-spectrum view and of
whatever the quadrature rule `Q` yields -/
noncomputable def onSupport {β ρ : Type} (S : Setup ℝ) (ωs ωi : ℝ) (z : β) (Q : Outcome ρ)
    (F : PM.JSetup ℝ → ρ → β) : Outcome β :=
  if offSupport S ωs ωi then .ok z else (jsetup S).bind fun J => Q.map (F J)

theorem jsaRaw_eq (S : Setup ℝ) (divs : Nat) (ωs ωi : ℝ) :
    jsaRaw S divs ωs ωi
      = onSupport S ωs ωi Cx.zero (simpsonRule divs) fun J r => PM.jsaRaw J r.1 r.2 ωs ωi := rfl

theorem jsa_eq (S : Setup ℝ) (divs : Nat) (ωs ωi : ℝ) :
    jsa S divs ωs ωi
      = onSupport S ωs ωi Cx.zero (simpsonRule divs) fun J r => PM.jsa J r.1 r.2 ωs ωi := rfl

theorem jsi_eq (S : Setup ℝ) (divs : Nat) (ωs ωi : ℝ) :
    jsi S divs ωs ωi
      = onSupport S ωs ωi (0.0 : ℝ) (simpsonRule divs) fun J r => PM.jsi J r.1 r.2 ωs ωi := rfl

theorem jsiSingles_eq (S : Setup ℝ) (divs : Nat) (ωs ωi : ℝ) :
    jsiSingles S divs ωs ωi
      = onSupport S ωs ωi (0.0 : ℝ) (Quad.simpson2dDivs divs)
          fun J _ => PM.jsiSingles (singlesSimpsonOf divs) J ωs ωi := rfl

section
variable {β γ ρ : Type}

theorem onSupport_off {S : Setup ℝ} {ωs ωi : ℝ} (hoff : offSupport S ωs ωi = true) (z : β)
    (Q : Outcome ρ) (F : PM.JSetup ℝ → ρ → β) : onSupport S ωs ωi z Q F = .ok z :=
  if_pos hoff

theorem onSupport_eq {S : Setup ℝ} {J : PM.JSetup ℝ} (hJ : jsetup S = .ok J) {Q : Outcome ρ} {r : ρ}
    (hr : Q = .ok r) (ωs ωi : ℝ) (z : β) (F : PM.JSetup ℝ → ρ → β) :
    onSupport S ωs ωi z Q F = .ok (if offSupport S ωs ωi then z else F J r) := by
  rw [onSupport, hJ, hr, bind_ok, map_ok, apply_ite Outcome.ok]

theorem onSupport_eq_ok {S : Setup ℝ} {ωs ωi : ℝ} {J : PM.JSetup ℝ} (hJ : jsetup S = .ok J)
    {Q : Outcome ρ} {r : ρ} (hr : Q = .ok r) {z : β} {F : PM.JSetup ℝ → ρ → β}
    (hz : offSupport S ωs ωi = true → F J r = z) : onSupport S ωs ωi z Q F = .ok (F J r) := by
  rw [onSupport_eq hJ hr, ite_eq_right_iff.mpr fun h => (hz h).symm]

theorem onSupport_ne_zero {S : Setup ℝ} {ωs ωi : ℝ} {z v : β} {Q : Outcome ρ}
    {F : PM.JSetup ℝ → ρ → β} (h : onSupport S ωs ωi z Q F = .ok v) (hv : v ≠ z) :
    ∃ J r, jsetup S = .ok J ∧ Q = .ok r ∧ v = F J r := by
  unfold onSupport at h
  split at h
  · exact absurd (Outcome.ok.inj h).symm hv
  · simp only [bind_eq_ok, map_eq_ok] at h
    obtain ⟨J, hJ, r, hr, rfl⟩ := h
    exact ⟨J, r, hJ, hr, rfl⟩

theorem onSupport_swap (S : Setup ℝ) (h : S.idlerAuto = false) {ωs ωi : ℝ} {z : β} {Q : Outcome ρ}
    {F F' : PM.JSetup ℝ → ρ → β}
    (hF : ∀ J r, jsetup S = .ok J → Q = .ok r → F' J.swap r = F J r) :
    onSupport S.swap ωi ωs z Q F' = onSupport S ωs ωi z Q F := by
  unfold onSupport
  rw [offSupport_swap, jsetup_swap S h, bind_map]
  exact congrArg _ (bind_congr fun J hJ => map_congr fun r hr => hF J r hJ hr)

theorem onSupport_scaled (S : Setup ℝ) (a b ωs ωi : ℝ) {c : β → γ} {z : β} {Q : Outcome ρ}
    {F : PM.JSetup ℝ → ρ → β} {z' : γ} {F' : PM.JSetup ℝ → ρ → γ}
    (hz : z' = c z) (hF : ∀ J r, F' (J.scaled a b) r = c (F J r)) :
    onSupport (S.scaled a b) ωs ωi z' Q F' = (onSupport S ωs ωi z Q F).map c := by
  unfold onSupport
  rw [offSupport_scaled, jsetup_scaled, bind_map, apply_ite (Outcome.map c), map_ok, map_bind, hz]
  simp only [map_map, fun J => funext (hF J)]

end

theorem jsaRaw_scaled (S : Setup ℝ) (a b : ℝ) (divs : Nat) (ωs ωi : ℝ) :
    jsaRaw (S.scaled a b) divs ωs ωi = jsaRaw S divs ωs ωi := by
  rw [jsaRaw_eq, jsaRaw_eq]
  exact (onSupport_scaled S a b ωs ωi (c := id) rfl fun J r =>
    PM.jsaRaw_scaled J a b r.1 r.2 ωs ωi).trans (map_id _)

theorem jsi_scaled (S : Setup ℝ) (a b : ℝ) (divs : Nat) (ωs ωi : ℝ) :
    jsi (S.scaled a b) divs ωs ωi = (jsi S divs ωs ωi).map fun x => a * b ^ 2 * x := by
  rw [jsi_eq, jsi_eq]
  exact onSupport_scaled S a b ωs ωi (by rw [lit_zero, mul_zero])
    fun J r => PM.jsiOfRaw_scaled J a b ωs ωi _

theorem jsiSingles_scaled (S : Setup ℝ) (a b : ℝ) (divs : Nat) (ωs ωi : ℝ) :
    jsiSingles (S.scaled a b) divs ωs ωi = (jsiSingles S divs ωs ωi).map fun x => a * b ^ 2 * x := by
  rw [jsiSingles_eq, jsiSingles_eq]
  exact onSupport_scaled S a b ωs ωi (by rw [lit_zero, mul_zero])
    fun J _ => PM.jsiSingles_scaled _ J a b ωs ωi

theorem simpsonW_eq (n d : Nat) : (Quad.simpsonW n d : ℝ) = PM.simpsonWeight n d := rfl

/-- `h1`, `h2`: the two assertions of `math::simpson` -/
theorem simpsonRule_eq_ok (divs : Nat) (h1 : ¬ divs + divs % 2 < 2) (h2 : ¬ divs + divs % 2 - 2 < 4) :
    (simpsonRule divs : Outcome (List (ℝ × ℝ) × ℝ))
      = .ok (PM.simpsonNodes (divs + divs % 2 - 2),
          (((1.0 : ℝ) - (-(1.0 : ℝ))) / ((divs + divs % 2 - 2 : Nat) : ℝ)) / (3.0 : ℝ)) := by
  rw [simpsonRule, Quad.simpsonDivs, if_neg h1, if_neg h2, map_ok]

/-- two transcriptions of the same Rust: the generic `math::simpson` and its use inside
`phasematch_fiber_coupling`; their panic texts differ, hence `h1`, `h2` -/
theorem half_simpson_eq (P : PM.Setup ℝ) (divs : Nat) (ωs ωi : ℝ)
    (h1 : ¬ divs + divs % 2 < 2) (h2 : ¬ divs + divs % 2 - 2 < 4) :
    (Quad.simpson (PM.pmIntegrand P ωs ωi) (-(1.0 : ℝ)) (1.0 : ℝ) divs).map (Cx.smul (0.5 : ℝ))
      = PM.pmCoincSimpson P divs ωs ωi := by
  rw [PM.pmCoincSimpson_eq_ok P divs ωs ωi h1 h2, Quad.simpson, Quad.simpsonDivs, if_neg h1, if_neg h2,
    map_ok, map_ok]
  simp only [Quad.simpsonCore, Quad.simpsonSum, PM.pmCoincQ, PM.quadSum, PM.simpsonNodes,
    List.map_map]
  rfl

end Spdc.Compose
