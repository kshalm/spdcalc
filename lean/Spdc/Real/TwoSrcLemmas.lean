import Spdc.Real.HomLemmas
import Mathlib.LinearAlgebra.Matrix.Trace
/-!
The two-source HOM model over ℝ (C10).  Four-fold sums over `Fin n`, reindexing of the flat index range
`k = i·n + s`, and the matrix form `F s i = f[i·n + s]`, `G = FᴴF`.  Each of the three rates is
`Σ|a − b·e^{iθ}|²/(4N)` over four indices: `channel_bounds` bounds such a sum over any index set, and each
exchange term `Σ|b|²` is the direct term `Σ|a|²` with two summation indices exchanged.
-/
namespace Spdc.TwoSrcLemmas
open Spdc.Grid Spdc.Hom Spdc.HomLemmas Finset Matrix

section interf
variable {ι : Type*} {s : Finset ι} {A B : ι → ℂ}

theorem sum_normSq_sub :
    ∑ x ∈ s, Complex.normSq (A x - B x) = ∑ x ∈ s, Complex.normSq (A x) +
      ∑ x ∈ s, Complex.normSq (B x) - 2 * (∑ x ∈ s, A x * (starRingEnd ℂ) (B x)).re := by
  simp only [Complex.normSq_sub, Finset.sum_sub_distrib, Finset.sum_add_distrib, Finset.mul_sum,
    Complex.re_sum]

theorem channel_bounds {θ : ι → ℝ} {N NB : ℝ} (hN : 0 < N)
    (hA : ∑ x ∈ s, Complex.normSq (A x) = N) (hB : ∑ x ∈ s, Complex.normSq (B x) = NB) :
    0 ≤ (∑ x ∈ s, Complex.normSq (A x - B x * Complex.exp ((θ x : ℂ) * Complex.I))) / 4 / N ∧
      (∑ x ∈ s, Complex.normSq (A x - B x * Complex.exp ((θ x : ℂ) * Complex.I))) / 4 / N ≤
        1 / 2 * (1 + NB / N) := by
  -- termwise `|a − w|² ≤ (|a| + |w|)² ≤ 2|a|² + 2|w|²` with `|w| = |b|`
  have h1 : ∑ x ∈ s, Complex.normSq (A x - B x * Complex.exp ((θ x : ℂ) * Complex.I)) ≤
      2 * N + 2 * NB := by
    rw [← hA, ← hB, Finset.mul_sum, Finset.mul_sum, ← Finset.sum_add_distrib]
    refine Finset.sum_le_sum fun x _ => ?_
    have h := pow_le_pow_left₀ (norm_nonneg _)
      (norm_sub_le (A x) (B x * Complex.exp ((θ x : ℂ) * Complex.I))) 2
    rw [norm_mul, Complex.norm_exp_ofReal_mul_I, mul_one] at h
    simp only [Complex.normSq_eq_norm_sq]
    linarith [add_sq_le (a := ‖A x‖) (b := ‖B x‖)]
  refine ⟨div_nonneg (div_nonneg (Finset.sum_nonneg fun _ _ => Complex.normSq_nonneg _) (by norm_num))
    hN.le, ?_⟩
  rw [div_div, div_le_iff₀ (by positivity)]
  calc _ ≤ 2 * N + 2 * NB := h1
    _ = 1 / 2 * (1 + NB / N) * (4 * N) := by field_simp; ring

end interf

section S4
variable {M : Type*} [AddCommMonoid M] {n : ℕ}

def S4 (g : Fin n → Fin n → Fin n → Fin n → M) : M := ∑ a, ∑ b, ∑ c, ∑ d, g a b c d

theorem S4_swap12 (g : Fin n → Fin n → Fin n → Fin n → M) :
    S4 g = S4 (fun a b c d => g b a c d) := Finset.sum_comm

theorem S4_swap23 (g : Fin n → Fin n → Fin n → Fin n → M) :
    S4 g = S4 (fun a b c d => g a c b d) :=
  Finset.sum_congr rfl fun _ _ => Finset.sum_comm

theorem S4_swap34 (g : Fin n → Fin n → Fin n → Fin n → M) :
    S4 g = S4 (fun a b c d => g a b d c) :=
  Finset.sum_congr rfl fun _ _ => Finset.sum_congr rfl fun _ _ => Finset.sum_comm

theorem S4_swap24 (g : Fin n → Fin n → Fin n → Fin n → M) :
    S4 g = S4 (fun a b c d => g a d c b) :=
  (S4_swap23 g).trans ((S4_swap34 _).trans (S4_swap23 _))

theorem S4_swap13 (g : Fin n → Fin n → Fin n → Fin n → M) :
    S4 g = S4 (fun a b c d => g c b a d) :=
  (S4_swap12 g).trans ((S4_swap23 _).trans (S4_swap12 _))

theorem S4_congr {g h : Fin n → Fin n → Fin n → Fin n → M} (e : ∀ a b c d, g a b c d = h a b c d) :
    S4 g = S4 h :=
  Finset.sum_congr rfl fun a _ => Finset.sum_congr rfl fun b _ =>
    Finset.sum_congr rfl fun c _ => Finset.sum_congr rfl fun d _ => e a b c d

/-- as one sum over the product type, so that the `Finset` lemmas apply as they are -/
theorem S4_prod (g : Fin n → Fin n → Fin n → Fin n → M) :
    S4 g = ∑ x : Fin n × Fin n × Fin n × Fin n, g x.1 x.2.1 x.2.2.1 x.2.2.2 := by
  simp only [S4, Fintype.sum_prod_type]

theorem S4_pair {N : Type*} [AddCommMonoid N] (x : Fin n → Fin n → Fin n → Fin n → M)
    (y : Fin n → Fin n → Fin n → Fin n → N) :
    S4 (fun a b c d => (x a b c d, y a b c d)) = (S4 x, S4 y) := by
  simp only [S4, ← prod_mk_sum]

end S4

theorem v3sum_eq (l : List (ℝ × ℝ × ℝ)) : v3sum l = l.sum := by
  rw [List.sum_eq_foldl, v3sum, v3zero, lit_zero]
  rfl

theorem twoSum_eq (cols : ℕ) (r1 r2 : Steps2D ℝ) (G : TwoSrc ℝ) (δ : ℝ) :
    twoSum cols r1 r2 G δ =
      ∑ k1 ∈ Finset.range r1.len, ∑ k2 ∈ Finset.range r2.len, twoTerm cols r1 r2 G δ k1 k2 := by
  simp only [twoSum, v3sum_eq, list_range_map_sum]

/-- matrix form of a flat array: `F s i = f[i·n + s]` (column = signal index, row = idler index) -/
noncomputable def Fmat (f : Array (Cx ℝ)) (n : ℕ) : Matrix (Fin n) (Fin n) ℂ :=
  fun s i => (at' f (i.val * n + s.val)).toC

theorem interfSq_eq (a b : Cx ℝ) (δ dω : ℝ) :
    interfSq a b δ dω =
      Complex.normSq (a.toC - b.toC * Complex.exp (((δ * dω : ℝ) : ℂ) * Complex.I)) := by
  unfold interfSq
  rw [Cx.normSq_eq, Cx.toC_sub', Cx.toC_mul', Cx.toC_fromPolar]
  simp only [lit_one, div_one, Complex.ofReal_one, one_mul]

/-- the shape of each two-source rate: `Σ |A − B·e^{iθ}|² / 4 / N` over four indices -/
noncomputable def channel {n : ℕ} (A B : Fin n → Fin n → Fin n → Fin n → ℂ)
    (θ : Fin n → Fin n → Fin n → Fin n → ℝ) (N : ℝ) : ℝ :=
  S4 (fun a b c d => Complex.normSq (A a b c d - B a b c d *
    Complex.exp ((θ a b c d : ℂ) * Complex.I))) / 4 / N

theorem twoRate_eq {n : ℕ} (r1 r2 : Steps2D ℝ) (h1 : r1.len = n * n) (h2 : r2.len = n * n)
    (G : TwoSrc ℝ) (δ : ℝ) :
    twoRate n r1 r2 G δ =
      let A (i1 s1 i2 s2 : Fin n) := Fmat G.first_s1_i1 n s1 i1 * Fmat G.second_s2_i2 n s2 i2
      let N := jsiNorm G.first_s1_i1 * jsiNorm G.second_s2_i2
      let w1 (i s : Fin n) := r1.value (i.val * n + s.val)
      let w2 (i s : Fin n) := r2.value (i.val * n + s.val)
      (channel A (fun i1 s1 i2 s2 => Fmat G.first_s2_i1 n s2 i1 * Fmat G.second_s1_i2 n s1 i2)
          (fun i1 s1 i2 s2 => δ * ((w2 i2 s2).1 - (w1 i1 s1).1)) N,
       channel A (fun i1 s1 i2 s2 => Fmat G.first_s1_i2 n s1 i2 * Fmat G.second_s2_i1 n s2 i1)
          (fun i1 s1 i2 s2 => δ * ((w2 i2 s2).2 - (w1 i1 s1).2)) N,
       channel A (fun i1 s1 i2 s2 => Fmat G.first_i2_i1 n i2 i1 * Fmat G.second_s2_s1 n s2 s1)
          (fun i1 s1 i2 s2 => δ * ((w2 i2 s2).2 - (w1 i1 s1).1)) N) := by
  -- the flat double sum over `k1 = i1·n + s1`, `k2 = i2·n + s2` is `S4` over `(i1, s1, i2, s2)`, and a sum of
  -- triples is the triple of sums
  have hs : twoSum n r1 r2 G δ = S4 fun i1 s1 i2 s2 : Fin n =>
      twoTerm n r1 r2 G δ (i1.val * n + s1.val) (i2.val * n + s2.val) := by
    simp only [twoSum_eq, h1, h2, sum_range_sq n, S4]
  simp only [twoTerm, get2dIndices_flat _ (Fin.isLt _), idx1, interfSq_eq, Cx.toC_mul'] at hs
  rw [twoRate, hs, S4_pair, S4_pair, lit_four]
  rfl

theorem sum_normSq_Fmat {f : Array (Cx ℝ)} {n : ℕ} (hf : f.size = n * n) :
    ∑ i : Fin n, ∑ s : Fin n, Complex.normSq (Fmat f n s i) = jsiNorm f := by
  rw [jsiNorm_eq, hf, sum_range_sq]; rfl

theorem S4_a_term {n : ℕ} {f1 f2 : Array (Cx ℝ)} (h1 : f1.size = n * n) (h2 : f2.size = n * n) :
    S4 (fun i1 s1 i2 s2 : Fin n => Complex.normSq (Fmat f1 n s1 i1 * Fmat f2 n s2 i2)) =
      jsiNorm f1 * jsiNorm f2 := by
  simp only [S4, map_mul, ← Finset.mul_sum, ← Finset.sum_mul]
  rw [sum_normSq_Fmat h1, sum_normSq_Fmat h2]

theorem S4_b_ss {n : ℕ} {f1 f2 : Array (Cx ℝ)} (h1 : f1.size = n * n) (h2 : f2.size = n * n) :
    S4 (fun i1 s1 i2 s2 : Fin n => Complex.normSq (Fmat f1 n s2 i1 * Fmat f2 n s1 i2)) =
      jsiNorm f1 * jsiNorm f2 := by
  rw [S4_swap24]; exact S4_a_term h1 h2

theorem S4_b_ii {n : ℕ} {f1 f2 : Array (Cx ℝ)} (h1 : f1.size = n * n) (h2 : f2.size = n * n) :
    S4 (fun i1 s1 i2 s2 : Fin n => Complex.normSq (Fmat f1 n s1 i2 * Fmat f2 n s2 i1)) =
      jsiNorm f1 * jsiNorm f2 := by
  rw [S4_swap13]; exact S4_a_term h1 h2

theorem S4_b_si {n : ℕ} {f1 f2 : Array (Cx ℝ)} (h1 : f1.size = n * n) (h2 : f2.size = n * n) :
    S4 (fun i1 s1 i2 s2 : Fin n => Complex.normSq (Fmat f1 n i2 i1 * Fmat f2 n s2 s1)) =
      jsiNorm f1 * jsiNorm f2 := by
  rw [S4_swap23]; exact S4_a_term h1 h2

theorem S4_channel_bounds {n : ℕ} {A B : Fin n → Fin n → Fin n → Fin n → ℂ}
    {θ : Fin n → Fin n → Fin n → Fin n → ℝ} {N NB : ℝ} (hN : 0 < N)
    (hA : S4 (fun a b c d => Complex.normSq (A a b c d)) = N)
    (hB : S4 (fun a b c d => Complex.normSq (B a b c d)) = NB) :
    0 ≤ channel A B θ N ∧ channel A B θ N ≤ 1 / 2 * (1 + NB / N) ∧
      (NB ≤ N → channel A B θ N ≤ 1) := by
  rw [S4_prod] at hA hB
  rw [channel, S4_prod]
  obtain ⟨h0, h1⟩ := channel_bounds hN hA hB
  exact ⟨h0, h1, fun h => h1.trans (by linarith [(div_le_one hN).mpr h])⟩

/-- the eight grids of two identical sources on one range: the six signal×idler grids coincide -/
def sixEq (f P Q : Array (Cx ℝ)) : TwoSrc ℝ := ⟨f, f, f, f, f, f, P, Q⟩

theorem S4_normSq_sub {n : ℕ} (A B : Fin n → Fin n → Fin n → Fin n → ℂ) :
    S4 (fun a b c d => Complex.normSq (A a b c d - B a b c d)) =
      S4 (fun a b c d => Complex.normSq (A a b c d)) + S4 (fun a b c d => Complex.normSq (B a b c d)) -
        2 * (S4 (fun a b c d => A a b c d * (starRingEnd ℂ) (B a b c d))).re := by
  simp only [S4_prod]
  exact sum_normSq_sub

theorem S4_trace {n : ℕ} (F : Matrix (Fin n) (Fin n) ℂ) :
    S4 (fun i1 s1 i2 s2 : Fin n => F s1 i1 * F s2 i2 * (starRingEnd ℂ) (F s2 i1 * F s1 i2)) =
      ((Fᴴ * F) * (Fᴴ * F)).trace := by
  have h : ((Fᴴ * F) * (Fᴴ * F)).trace =
      S4 (fun i1 i2 s s' : Fin n =>
        (starRingEnd ℂ) (F s i1) * F s i2 * ((starRingEnd ℂ) (F s' i2) * F s' i1)) := by
    simp only [Matrix.trace, Matrix.diag, Matrix.mul_apply, Matrix.conjTranspose_apply, S4,
      Finset.sum_mul_sum]
    rfl
  rw [h]
  -- the trace's `(i1, i2, s, s')` are the statement's `(i1, i2, s2, s1)`; two swaps put them at `(i1, s1, i2, s2)`
  conv_rhs => rw [S4_swap24, S4_swap34]
  refine S4_congr fun a b c d => ?_
  simp only [map_mul]; ring

theorem trace_gram_Fmat {f : Array (Cx ℝ)} {n : ℕ} (hf : f.size = n * n) :
    ((Fmat f n)ᴴ * Fmat f n).trace = ((jsiNorm f : ℝ) : ℂ) := by
  rw [← sum_normSq_Fmat hf]
  simp only [Matrix.trace, Matrix.diag, Matrix.mul_apply, Matrix.conjTranspose_apply]
  push_cast
  apply Finset.sum_congr rfl; intro i _
  apply Finset.sum_congr rfl; intro s _
  rw [Complex.normSq_eq_conj_mul_self]; rfl

end Spdc.TwoSrcLemmas
