import Spdc.Real.GridLemmas
import Spdc.Real.ComposeGridLemmas
import Spdc.Real.GridProgLemmas
import Mathlib.Data.Real.Basic
/-!
# C14 — grids enumerate exactly the documented points in row-major order

Scalar statements are over an arbitrary field `K` of characteristic 0 (in particular `ℝ`), except where
the order is needed (`wl_freq_endpoints`) and for the composed model at the end, which are over `ℝ`;
list-structure statements are over an arbitrary scalar type.
-/
namespace Spdc.Props.C14
open Spdc Spdc.Grid

/-- T1. A step range of `n` points yields exactly `n` values, the `i`-th being `value i`; it starts at the
first endpoint (`n ≥ 1`), ends at the second (`n ≥ 2`) and is evenly spaced by `(b − a)/(n − 1)`;
`n = 1 ⇒ [a]`, `n = 0 ⇒ []`. -/
theorem steps_enumerate {K : Type} [Field K] [CharZero K] (s : Steps K) :
    s.collect.length = s.n ∧
    (∀ i (h : i < s.collect.length), s.collect[i] = s.value i) ∧
    (1 ≤ s.n → s.collect.head? = some s.a) ∧
    (2 ≤ s.n → s.collect.getLast? = some s.b) ∧
    (2 ≤ s.n → ∀ i, s.value (i + 1) - s.value i = (s.b - s.a) / ((s.n - 1 : Nat) : K)) ∧
    (s.n = 1 → s.collect = [s.a]) ∧
    (s.n = 0 → s.collect = []) := by
  refine ⟨s.collect_length, s.collect_getElem, ?_, ?_, fun _ => s.value_succ_sub, ?_, s.collect_zero⟩
  · intro h
    have hl : 0 < s.collect.length := by rw [s.collect_length]; omega
    rw [List.head?_eq_getElem?, List.getElem?_eq_getElem hl, s.collect_getElem 0 hl, s.value_zero]
  · intro h
    have hl : s.n - 1 < s.collect.length := by rw [s.collect_length]; omega
    rw [List.getLast?_eq_getElem?, s.collect_length, List.getElem?_eq_getElem hl,
      s.collect_getElem _ hl, s.value_last h]
  · intro h
    simp [Steps.collect, h, s.value_zero]

/-- T1. Traversal from the back is the reverse of the forward traversal; traversal from the front is
`collect` (what `into_iter().rev().collect()` / `.collect()` return) — any scalar type -/
theorem steps_rev_collect {α : Type} [Add α] [Sub α] [Mul α] [Div α] [NatCast α] (s : Steps α) :
    s.iter.drain (List.replicate s.n true) = s.collect.reverse.map some ∧
    s.iter.drain (List.replicate s.n false) = s.collect.map some := by
  constructor
  · exact Iter1.drain_all_back s s.n
  · have := Iter1.drain_all_front s s.n s.n 0 (Nat.le_of_eq (Nat.zero_add _))
    simpa [Steps.iter, Steps.collect, List.range_eq_range'] using this

/-- T1. Mixed front/back consumption (any script of `next` / `next_back` calls): the front pulls deliver
a prefix of the sequence in order, the back pulls a suffix in reverse order, the two never overlap
(`f + b ≤ n`), exactly `min (#pulls) n` values are delivered, and once the script is at least `n`
long the two parts partition the whole sequence. -/
theorem steps_drain_partition {α : Type} [Add α] [Sub α] [Mul α] [Div α] [NatCast α]
    (s : Steps α) (sc : List Bool) :
    ∃ f b, f + b = min sc.length s.n ∧
      pulls sc (s.iter.drain sc) false = s.collect.take f ∧
      (pulls sc (s.iter.drain sc) true).reverse = s.collect.drop (s.n - b) ∧
      (s.iter.drain sc).length = sc.length ∧
      (s.n ≤ sc.length →
        pulls sc (s.iter.drain sc) false ++ (pulls sc (s.iter.drain sc) true).reverse = s.collect) := by
  obtain ⟨f, b, hfb, hf, hb⟩ := Iter1.drain_spec s sc 0 s.n (Nat.zero_le _)
  rw [Nat.sub_zero] at hfb
  -- the indices `[0, f)` and `[n − b, n)` of the invariant, read as a prefix and a suffix of `collect`
  have hf' : pulls sc (s.iter.drain sc) false = s.collect.take f := by
    rw [Steps.iter, hf, Steps.collect, ← List.map_take, List.range_eq_range',
      List.take_range'_of_length_ge (by omega)]
  have hb' : (pulls sc (s.iter.drain sc) true).reverse = s.collect.drop (s.n - b) := by
    rw [Steps.iter, hb, List.reverse_reverse, Steps.collect, ← List.map_drop, List.range_eq_range',
      List.drop_range']
    congr 2 <;> omega
  refine ⟨f, b, hfb, hf', hb', Iter1.drain_length _ sc, fun hlen => ?_⟩
  rw [hf', hb', show s.n - b = f by omega, List.take_append_drop]

/-- T1. Positional access from either end, in ANY state a 1-D iterator can reach (`index ≤ index_back`:
whatever has been taken from the front and from the back before).  `nth k` — hence `skip`, `step_by`,
`take`, which std routes through it — returns the documented point `index + k` exactly when that point
has not been delivered yet (`index + k < index_back`) and `None` otherwise, never a point already taken
from the back; `nth_back k` symmetrically returns point `index_back − 1 − k`; both leave the cursors
ordered, so the remaining length is the number of points not yet delivered. -/
theorem steps_nth_positional {α : Type} [Add α] [Sub α] [Mul α] [Div α] [NatCast α]
    (it : Iter1 α) (h : it.index ≤ it.indexBack) (k : Nat) :
    it.nth k = (if it.index + k < it.indexBack then some (it.steps.value (it.index + k)) else none,
                { it with index := min (it.index + k + 1) it.indexBack }) ∧
    it.nthBack k = (if it.index + k < it.indexBack then some (it.steps.value (it.indexBack - 1 - k)) else none,
                    { it with indexBack := max (it.indexBack - (k + 1)) it.index }) ∧
    (it.nth k).2.index ≤ (it.nth k).2.indexBack ∧ (it.nthBack k).2.index ≤ (it.nthBack k).2.indexBack ∧
    (it.nth k).2.len = it.len - (k + 1) ∧ (it.nthBack k).2.len = it.len - (k + 1) := by
  simp only [it.nth_spec h k, it.nthBack_spec h k, Iter1.len, true_and]
  omega

/-- T1 in two dimensions. The same for the 2-D iterator over any partition `[index, index_back)` of the
grid: `nth k` is the grid point with flat index `index + k` if the partition still owns it, `None`
otherwise -/
theorem steps2d_nth_positional {α : Type} [Add α] [Sub α] [Mul α] [Div α] [NatCast α] [OfScientific α]
    (it : Iter2 α) (h : it.index ≤ it.indexBack) (k : Nat) :
    it.nth k = (if it.index + k < it.indexBack then some (it.steps.value (it.index + k)) else none,
                { it with index := min (it.index + k + 1) it.indexBack }) ∧
    it.nthBack k = (if it.index + k < it.indexBack then some (it.steps.value (it.indexBack - 1 - k)) else none,
                    { it with indexBack := max (it.indexBack - (k + 1)) it.index }) ∧
    (it.nth k).2.index ≤ (it.nth k).2.indexBack ∧ (it.nthBack k).2.index ≤ (it.nthBack k).2.indexBack ∧
    (it.nth k).2.len = it.len - (k + 1) ∧ (it.nthBack k).2.len = it.len - (k + 1) := by
  simp only [it.nth_spec h k, it.nthBack_spec h k, Iter2.len, true_and]
  omega

/-- T2. A 2-D range yields `nx·ny` points; point `k` is `(x_{k mod nx}, y_{k div nx})` — the 1-D values of
the two axes, first axis varying fastest -/
theorem steps2d_enumerate {K : Type} [Field K] [CharZero K] (s : Steps2D K) :
    s.collect.length = s.x.n * s.y.n ∧
    ∀ k (h : k < s.collect.length),
      ∃ (hx : k % s.x.n < s.x.collect.length) (hy : k / s.x.n < s.y.collect.length),
        s.collect[k] = (s.x.collect[k % s.x.n], s.y.collect[k / s.x.n]) := by
  refine ⟨s.collect_length, ?_⟩
  intro k h
  have hk : k < s.x.n * s.y.n := by rw [← s.collect_length]; exact h
  have hpos : 0 < s.x.n := Nat.pos_of_lt_mul_right hk
  have hx : k % s.x.n < s.x.collect.length := by
    rw [s.x.collect_length]; exact Nat.mod_lt _ hpos
  have hy : k / s.x.n < s.y.collect.length := by
    rw [s.y.collect_length]; exact Nat.div_lt_of_lt_mul hk
  refine ⟨hx, hy, ?_⟩
  rw [s.collect_getElem k h, s.value_eq k, s.x.collect_getElem _ hx, s.y.collect_getElem _ hy]

/-- T3. The flat-index ↔ (column,row) maps are mutually inverse: (column,row) → flat → (column,row) -/
theorem index_inverse_1 (col row cols : Nat) (h : col < cols) :
    (get1dIndex col row cols).map (fun k => get2dIndices k cols) = .ok (col, row) := by
  rw [get1dIndex, if_pos h, Outcome.map_ok, get2dIndices_flat row h]

/-- T3, the other way round: flat → (column,row) → flat -/
theorem index_inverse_2 (k cols : Nat) (h : 0 < cols) :
    get1dIndex (get2dIndices k cols).1 (get2dIndices k cols).2 cols = .ok k := by
  simp only [get1dIndex, get2dIndices, Nat.mod_lt _ h, if_true]
  congr 1
  rw [Nat.mul_comm]; exact Nat.div_add_mod k cols

/-- T4. A flat list `[s₀,i₀,s₁,i₁,…]` built from the points of a grid, re-chunked in pairs as the
`SignalIdler*Array` iterators do, gives the same points — hence any function mapped over it gives
the same values as over the grid, in the same order. -/
theorem range_flat_array_eq_grid {β γ : Type} (f : β × β → γ) (pts : List (β × β)) :
    chunks2 (pts.flatMap fun p => [p.1, p.2]) = pts ∧
    (chunks2 (pts.flatMap fun p => [p.1, p.2])).map f = pts.map f := by
  rw [chunks2_flat]; exact ⟨rfl, rfl⟩

/-- T5. Wavelength ↔ frequency: endpoints go to endpoints (largest wavelength ↦ smallest frequency),
counts are kept and each ascending positive axis stays ascending and positive -/
theorem wl_freq_endpoints (c : ℝ) (hc : 0 < c) (s : Steps2D ℝ)
    (hxa : 0 < s.x.a) (hx : s.x.a ≤ s.x.b) (hya : 0 < s.y.a) (hy : s.y.a ≤ s.y.b) :
    (convRecip c s).x.a = c / s.x.b ∧ (convRecip c s).x.b = c / s.x.a ∧
    (convRecip c s).y.a = c / s.y.b ∧ (convRecip c s).y.b = c / s.y.a ∧
    (convRecip c s).x.n = s.x.n ∧ (convRecip c s).y.n = s.y.n ∧
    0 < (convRecip c s).x.a ∧ (convRecip c s).x.a ≤ (convRecip c s).x.b ∧
    0 < (convRecip c s).y.a ∧ (convRecip c s).y.a ≤ (convRecip c s).y.b := by
  refine ⟨rfl, rfl, rfl, rfl, rfl, rfl, ?_, ?_, ?_, ?_⟩
  · exact div_pos hc (lt_of_lt_of_le hxa hx)
  · exact div_le_div_of_nonneg_left hc.le hxa hx
  · exact div_pos hc (lt_of_lt_of_le hya hy)
  · exact div_le_div_of_nonneg_left hc.le hya hy

/-- T5. Wavelength → frequency → wavelength (and the converse: same function) is the identity on grids
with non-zero endpoints, for any non-zero constant `2πc` -/
theorem wl_freq_roundtrip {K : Type} [Field K] [CharZero K] (c : K) (hc : c ≠ 0) (s : Steps2D K)
    (h1 : s.x.a ≠ 0) (h2 : s.x.b ≠ 0) (h3 : s.y.a ≠ 0) (h4 : s.y.b ≠ 0) :
    convRecip c (convRecip c s) = s := by
  obtain ⟨⟨xa, xb, xn⟩, ⟨ya, yb, yn⟩⟩ := s
  simp only [convRecip, recip_recip c _ hc h1, recip_recip c _ hc h2, recip_recip c _ hc h3,
    recip_recip c _ hc h4]

/-- T5. Frequency → sum/difference axes keeps both point counts and the grid centre: the centre of the
sum/diff grid, read back as (signal, idler) = (s − d, s + d), is the centre of the frequency grid;
the way back keeps counts, and the round trip always keeps the centre of each axis. -/
theorem sumdiff_centre_counts {K : Type} [Field K] [CharZero K] (f : Steps2D K) :
    (toSumDiff f).x.n = f.x.n ∧ (toSumDiff f).y.n = f.y.n ∧
    (fromSumDiff (toSumDiff f)).x.n = f.x.n ∧ (fromSumDiff (toSumDiff f)).y.n = f.y.n ∧
    sumDiffPoint (((toSumDiff f).x.a + (toSumDiff f).x.b) / 2, ((toSumDiff f).y.a + (toSumDiff f).y.b) / 2)
      = ((f.x.a + f.x.b) / 2, (f.y.a + f.y.b) / 2) ∧
    ((fromSumDiff (toSumDiff f)).x.a + (fromSumDiff (toSumDiff f)).x.b) / 2 = (f.x.a + f.x.b) / 2 ∧
    ((fromSumDiff (toSumDiff f)).y.a + (fromSumDiff (toSumDiff f)).y.b) / 2 = (f.y.a + f.y.b) / 2 := by
  refine ⟨rfl, rfl, rfl, rfl, ?_, ?_, ?_⟩
  · simp only [sumDiffPoint, toSumDiff, klit_two, Prod.mk.injEq]
    constructor <;> ring
  · rw [fromSumDiff_toSumDiff]; ring
  · rw [fromSumDiff_toSumDiff]; ring

/-- T5. Frequency → sum/diff → frequency is the identity **exactly** when signal and idler spans are equal -/
theorem sumdiff_roundtrip_iff {K : Type} [Field K] [CharZero K] (f : Steps2D K) :
    fromSumDiff (toSumDiff f) = f ↔ f.x.b - f.x.a = f.y.b - f.y.a := by
  obtain ⟨⟨xa, xb, xn⟩, ⟨ya, yb, yn⟩⟩ := f
  -- every endpoint comes back shifted by `±δ`, `δ` a quarter of the span mismatch: `= f` iff `δ = 0`
  simp only [fromSumDiff_toSumDiff, Steps2D.mk.injEq, Steps.mk.injEq, and_true, add_eq_left, sub_eq_self,
    div_eq_zero_iff, sub_eq_zero, OfNat.ofNat_ne_zero, or_false, and_self]

/-- T5. Round trip under the equal-span hypothesis -/
theorem sumdiff_roundtrip {K : Type} [Field K] [CharZero K] (f : Steps2D K)
    (h : f.x.b - f.x.a = f.y.b - f.y.a) : fromSumDiff (toSumDiff f) = f :=
  (sumdiff_roundtrip_iff f).mpr h

/-- T5. Counter-example for unequal spans: signal 0…1, idler 0…2 comes back as signal −¼…1¼ -/
theorem sumdiff_roundtrip_counterexample :
    fromSumDiff (toSumDiff (⟨⟨0, 1, 5⟩, ⟨0, 2, 5⟩⟩ : Steps2D ℝ)) ≠ ⟨⟨0, 1, 5⟩, ⟨0, 2, 5⟩⟩ ∧
    (fromSumDiff (toSumDiff (⟨⟨0, 1, 5⟩, ⟨0, 2, 5⟩⟩ : Steps2D ℝ))).x.a = -1 / 4 := by
  constructor
  · rw [Ne, sumdiff_roundtrip_iff]; norm_num
  · rw [fromSumDiff_toSumDiff]; norm_num

/-- T6. Transposing a flat row-major `rows × cols` matrix yields its matrix transpose, for **every**
shape with `cols ≥ 1` (rows ≥ 0) — true of the code since the `fix:` commit ba2e9b3 -/
theorem transpose_spec {β : Type} (m : Nat → Nat → β) (rows cols : Nat) (hc : 1 ≤ cols) :
    transposeVec (flatten m rows cols) cols = .ok (transposeSpec m rows cols) := by
  have hc0 : cols ≠ 0 := by omega
  simp only [transposeVec, hc0, if_false, flatten_length, div_ceil_mul rows cols hc, transposeSpec]
  congr 1
  -- column `c` of the output: `vec.get(r·cols + c)` hits entry `(r, c)` for every row `r`
  refine List.flatMap_congr fun c hcm => ?_
  rw [← List.filterMap_eq_map]
  refine List.filterMap_congr fun r hrm => ?_
  simp [flatten_getElem? m rows cols r c (List.mem_range.mp hrm) (List.mem_range.mp hcm)]

/-- T6. `num_cols = 0` is a division by zero (`div_ceil`) -/
theorem transpose_zero_cols {β : Type} (v : List β) : (transposeVec v 0).isPanic = true := by
  simp [transposeVec, Outcome.isPanic]

example : (⟨0, 1, 3⟩ : Steps ℝ).collect.getLast? = some 1 :=
  (steps_enumerate (⟨0, 1, 3⟩ : Steps ℝ)).2.2.2.1 (by norm_num)
example : ∃ f b, f + b = min 4 3 ∧ True := ⟨3, 0, by norm_num, trivial⟩
example : (⟨⟨0, 1, 2⟩, ⟨0, 1, 3⟩⟩ : Steps2D ℝ).collect.length = 2 * 3 :=
  (steps2d_enumerate _).1
example : get1dIndex 2 1 3 = .ok 5 := by decide
example : (convRecip (2 : ℝ) ⟨⟨1, 2, 3⟩, ⟨1, 4, 3⟩⟩).x.a ≤ (convRecip (2 : ℝ) ⟨⟨1, 2, 3⟩, ⟨1, 4, 3⟩⟩).x.b :=
  (wl_freq_endpoints 2 (by norm_num) _ (by norm_num) (by norm_num) (by norm_num) (by norm_num)).2.2.2.2.2.2.2.1
example : fromSumDiff (toSumDiff (⟨⟨1, 2, 5⟩, ⟨3, 4, 7⟩⟩ : Steps2D ℝ)) = ⟨⟨1, 2, 5⟩, ⟨3, 4, 7⟩⟩ :=
  sumdiff_roundtrip _ (by norm_num)
example : transposeVec [1, 2, 3, 4, 5, 6] 3 = .ok [1, 4, 2, 5, 3, 6] := by decide
example : transposeVec (flatten (fun r c => 3 * r + c + 1) 2 3) 3
    = .ok (transposeSpec (fun r c => 3 * r + c + 1) 2 3) := transpose_spec _ 2 3 (by norm_num)

-- `Steps(0., 9., 10)`: 9, 8, 7, 6 taken from the back leave `[0, 6)`; `nth(2)` is point 2, a following
-- `nth(4)` (target 7, already delivered) is `None`
example : ((⟨⟨0, 9, 10⟩, 0, 6⟩ : Iter1 ℝ).nth 2).1 = some ((⟨0, 9, 10⟩ : Steps ℝ).value 2)
    ∧ ((⟨⟨0, 9, 10⟩, 3, 6⟩ : Iter1 ℝ).nth 4).1 = none := by
  constructor
  · rw [(steps_nth_positional (⟨⟨0, 9, 10⟩, 0, 6⟩ : Iter1 ℝ) (by decide) 2).1]; simp
  · rw [(steps_nth_positional (⟨⟨0, 9, 10⟩, 3, 6⟩ : Iter1 ℝ) (by decide) 4).1]; simp
-- the last point of a 3×4 grid by position: `nth(11)` of the fresh iterator is point 11
example : ((⟨⟨⟨0, 1, 3⟩, ⟨0, 1, 4⟩⟩, 0, 12, 0, 12⟩ : Iter2 ℝ).nth 11).1
    = some ((⟨⟨0, 1, 3⟩, ⟨0, 1, 4⟩⟩ : Steps2D ℝ).value 11) := by
  rw [(steps2d_nth_positional (⟨⟨⟨0, 1, 3⟩, ⟨0, 1, 4⟩⟩, 0, 12, 0, 12⟩ : Iter2 ℝ) (by decide) 11).1]; simp

/-! ## composed model (grid level)

`Spdc/Model/ComposeGrid.lean` builds the grids of the grid-level API from primitives (`Ranges`: kind,
endpoints, step counts).  The theorems below tie its two adapters to the definitions the theorems above
are about, and state the row-major order of the composed `*_range` functions. -/

/-- composed model: `Into<FrequencySpace>` of a wavelength range is the endpoint-swapping reciprocal
map `convRecip` with `2πc` (so `wl_freq_endpoints` / `wl_freq_roundtrip` apply), of a sum/difference
range it is `fromSumDiff`; the `IntoSignalIdlerIterator` of a frequency range is the row-major
enumeration, of a sum/difference range the enumeration mapped through `(s − d, s + d)`; every range
yields `nx·ny` points. -/
theorem compose_ranges_adapters (g : Steps2D ℝ) :
    (Compose.Ranges.wavelength g).toFrequencySpace = convRecip (Units.twoPiC : ℝ) g
      ∧ (Compose.Ranges.sumDiff g).toFrequencySpace = fromSumDiff g
      ∧ (Compose.Ranges.freq g).toFrequencySpace = g
      ∧ (Compose.Ranges.freq g).points = g.collect
      ∧ (Compose.Ranges.sumDiff g).points = g.collect.map sumDiffPoint
      ∧ (Compose.Ranges.freq g).points.length = g.x.n * g.y.n
      ∧ (Compose.Ranges.wavelength g).points.length = g.x.n * g.y.n
      ∧ (Compose.Ranges.sumDiff g).points.length = g.x.n * g.y.n := by
  refine ⟨?_, rfl, rfl, rfl, rfl, ?_, ?_, ?_⟩
  · simp [Compose.Ranges.toFrequencySpace, Compose.wavelengthToFrequencySpace, convRecip, recip,
      Units.vacuumWavelengthToFrequency, Units.wavelengthToFrequency, lit_one]
  · exact Steps2D.collect_length g
  · simp [Compose.Ranges.points, Steps2D.collect_length]
  · simp [Compose.Ranges.points, Steps2D.collect_length]

/-- composed model: `JointSpectrum::jsi_range` of ANY primitive setup over a frequency range returns
`nx·ny` values, the `k`-th being the composed `jsi` at the `k`-th point of the row-major enumeration
(`Steps2D.value k`: signal index `k mod nx`, idler index `k div nx`). -/
theorem compose_jsi_range_row_major (S : Compose.Setup ℝ) (divs : Nat) (js : Compose.JS ℝ)
    (hjs : Compose.jointSpectrum S divs = .ok js) (J : PM.JSetup ℝ) (hJ : Compose.jsetup S = .ok J)
    (q : List (ℝ × ℝ) × ℝ) (hq : Compose.simpsonRule divs = .ok q) (g : Steps2D ℝ) :
    ∃ l, Compose.jsiRange S divs (.freq g) = .ok l ∧ l.length = g.x.n * g.y.n ∧
      ∀ k (hk : k < l.length), l[k] = PM.jsi J q.1 q.2 (g.value k).1 (g.value k).2 := by
  obtain ⟨rfl, rfl, -⟩ := Compose.jointSpectrum_ok hjs
  refine ⟨g.collect.map fun p => PM.jsi J q.1 q.2 p.1 p.2, ?_, ?_, ?_⟩
  · rw [Compose.jsiRange, hjs, Outcome.bind_ok, Compose.JS.jsiRange, Compose.JS.jsi_total hJ hq]
    exact Compose.mapPoints_total _ _
  · rw [List.length_map, Steps2D.collect_length]
  · intro k hk
    simp [Steps2D.collect]

/-- the hypotheses `hjs`, `hJ`, `hq` of the composed theorems hold for the concrete setup `Compose.exGrid` -/
example : ∃ js J q, Compose.jointSpectrum Compose.exGrid 50 = .ok js ∧ Compose.jsetup Compose.exGrid = .ok J ∧
    (Compose.simpsonRule 50 : Outcome (List (ℝ × ℝ) × ℝ)) = .ok q := Compose.exGrid_available

end Spdc.Props.C14
