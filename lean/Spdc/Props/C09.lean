import Spdc.Real.HomLemmas
import Spdc.Real.ComposeGridLemmas
/-!
# C09 — the HOM coincidence rate is a bounded, correctly normalised interference sum

Property theorems only; all but the last section (the composed model) are about the executable model
`Spdc.Hom` (flat arrays, `Steps2D` enumeration) at the ℝ instance.  Helper lemmas:
`Spdc/Real/HomLemmas.lean`, for the last section `Spdc/Real/ComposeGridLemmas.lean`.
-/
namespace Spdc.Props.C09
open Spdc Spdc.Grid Spdc.Hom Spdc.HomLemmas

/-- T1a. The interference sum of an array with its exchanged-position counterpart is bounded by
the norm — any side, any axes, any delay. -/
theorem abs_interf_le (n : ℕ) (grid : Steps2D ℝ) (hx : grid.x.n = n) (hy : grid.y.n = n)
    (f : Array (Cx ℝ)) (hf : f.size = n * n) (τ : ℝ) :
    |homInterf grid f (swapArr n f) τ| ≤ jsiNorm f := by
  have hlen : grid.len = n * n := Steps2D.len_sq hx hy
  -- reading at exchanged positions permutes the summands of the norm
  have h : ∑ k ∈ Finset.range (n * n), Complex.normSq (at' (swapArr n f) k).toC =
      ∑ k ∈ Finset.range (n * n), Complex.normSq (at' f k).toC := by
    rw [← sum_swapIdx n fun k => Complex.normSq (at' f k).toC]
    exact Finset.sum_congr rfl fun k hk => by rw [at_swapArr f (Finset.mem_range.mp hk)]
  refine (abs_homInterf_le_half grid f (swapArr n f) τ).trans_eq ?_
  rw [jsiNorm_eq, hf, hlen, h, add_self_div_two]

/-- T1b. For a non-zero spectrum on a square grid the model's `homRate` returns a value in
`[0, 1]`, and the visibility `(½ − r)/½` lies in `[−1, 1]`, at every delay. -/
theorem homRate_mem_unit (n : ℕ) (grid : Steps2D ℝ) (hx : grid.x.n = n) (hy : grid.y.n = n)
    (f : Array (Cx ℝ)) (hf : f.size = n * n) (hN : 0 < jsiNorm f) (τ : ℝ) :
    ∃ r, homRate grid f (swapArr n f) τ none = .ok r ∧ 0 ≤ r ∧ r ≤ 1 ∧
      -1 ≤ visibilityOf r ∧ visibilityOf r ≤ 1 := by
  have hlen : grid.len = n * n := Steps2D.len_sq hx hy
  have h := rate_mem_of_abs_le hN (abs_interf_le n grid hx hy f hf τ)
  exact ⟨_, homRate_none_eq_ok grid f (swapArr n f) τ (by rw [hlen, hf]) (by rw [hlen, size_swapArr]),
    h.1, h.2, visibilityOf_mem h.1 h.2⟩

/-- T2a. The swap index map `k ↦ (k mod n)·n + k div n` is an involutive permutation of the flat
index range of an `n × n` grid. -/
theorem swap_index_perm (n k : ℕ) (hk : k < n * n) :
    swapIdx n k < n * n ∧ swapIdx n (swapIdx n k) = k ∧
      get2dIndices (swapIdx n k) n = ((get2dIndices k n).2, (get2dIndices k n).1) :=
  ⟨swapIdx_lt hk, swapIdx_invol hk, get2dIndices_swapIdx hk⟩

/-- T2b. On a grid with identical axes the grid point at the swapped index is the exchanged pair,
so the frequency difference changes sign. -/
theorem swap_index_grid (n : ℕ) (ax : Steps ℝ) (hn : ax.n = n) (k : ℕ) (hk : k < n * n) :
    Steps2D.value ⟨ax, ax⟩ (swapIdx n k) =
        ((Steps2D.value ⟨ax, ax⟩ k).2, (Steps2D.value ⟨ax, ax⟩ k).1) ∧
      deltaW ⟨ax, ax⟩ (swapIdx n k) = - deltaW ⟨ax, ax⟩ k :=
  ⟨value_swapIdx ax hn hk, by simp only [deltaW, value_swapIdx ax hn hk, neg_sub]⟩

/-- T2c. On identical axes the exchanged-argument sampling `(J(ω_i, ω_s))_k` built by the
setup-level wrappers is the sampled array read at swapped positions: the hypotheses of T1 hold
for the concrete flat arrays. -/
theorem exchanged_is_swapArr (J : ℝ → ℝ → Cx ℝ) (n : ℕ) (ax : Steps ℝ) (hn : ax.n = n) :
    sampledSwapped J ⟨ax, ax⟩ = swapArr n (sampled J ⟨ax, ax⟩) := by
  have hlen : (Steps2D.len ⟨ax, ax⟩ : ℕ) = n * n := Steps2D.len_sq hn hn
  unfold sampledSwapped swapArr
  rw [hlen]
  congr 1
  refine List.map_congr_left fun k hk => ?_
  have hk' := List.mem_range.mp hk
  rw [at_sampled J _ (hlen ▸ swapIdx_lt hk'), value_swapIdx ax hn hk']

/-- T3. A spectrum symmetric under exchange gives rate 0 (visibility 1) at zero delay. -/
theorem symmetric_zero (n : ℕ) (grid : Steps2D ℝ) (hx : grid.x.n = n) (hy : grid.y.n = n)
    (f : Array (Cx ℝ)) (hf : f.size = n * n) (hN : jsiNorm f ≠ 0)
    (hsym : ∀ k, k < n * n → at' f (swapIdx n k) = at' f k) :
    homRate grid f (swapArr n f) 0 none = .ok 0 ∧ visibilityOf (0 : ℝ) = 1 := by
  have hlen : grid.len = n * n := Steps2D.len_sq hx hy
  refine ⟨homRate_eq_zero (by rw [hlen, hf]) (by rw [hlen, size_swapArr]) hN ?_,
    by rw [visibilityOf_eq]; norm_num⟩
  rw [jsiNorm_eq, hf, ← hlen]
  refine homInterf_eq_sum fun k hk => ?_
  rw [hlen] at hk
  exact homTerm_zero_delay ((at_swapArr f hk).trans (hsym k hk))

/-- T4. Separable Gaussian-type spectrum `a(ω_s) a(ω_i) · exp(i t₀ (ω_i − ω_s)/2)` (any real
envelope `a`): on *every* grid the interference sum of the setup-level construction is exactly
`Σ_k a(ω_s)² a(ω_i)² cos(Δ_k (τ − t₀))` — the dip sits at `τ = +t₀`. -/
theorem gaussian_reduction (a : ℝ → ℝ) (t0 : ℝ) (grid : Steps2D ℝ) (τ : ℝ) :
    let J : ℝ → ℝ → Cx ℝ := fun ws wi => Cx.fromPolar (a ws * a wi) (t0 * (wi - ws) / 2)
    homInterf grid (sampled J grid) (sampledSwapped J grid) τ =
      ∑ k ∈ Finset.range grid.len,
        (a (grid.value k).1 * a (grid.value k).2) ^ 2 * Real.cos (deltaW grid k * (τ - t0)) := by
  intro J
  refine homInterf_eq_sum fun k hk => ?_
  rw [homTerm_eq, at_sampled J grid hk, at_sampledSwapped J grid hk]
  simp only [J, Cx.toC_fromPolar, deltaW, re_conj_polar_mul]
  congr 1
  · ring
  · congr 1; ring

/-- T4 (corollary). At `τ = t₀` the rate of that spectrum is exactly 0 on every grid. -/
theorem gaussian_dip_at_t0 (a : ℝ → ℝ) (t0 : ℝ) (grid : Steps2D ℝ) :
    let J : ℝ → ℝ → Cx ℝ := fun ws wi => Cx.fromPolar (a ws * a wi) (t0 * (wi - ws) / 2)
    jsiNorm (sampled J grid) ≠ 0 →
      homRate grid (sampled J grid) (sampledSwapped J grid) t0 none = .ok 0 := by
  intro J hN
  refine homRate_eq_zero (size_sampled J grid).ge (size_sampledSwapped J grid).ge hN ?_
  rw [gaussian_reduction a t0 grid t0, jsiNorm_eq, size_sampled]
  refine Finset.sum_congr rfl fun k hk => ?_
  rw [at_sampled J grid (Finset.mem_range.mp hk)]
  simp only [J, Cx.toC_fromPolar, sub_self, mul_zero, Real.cos_zero, mul_one, map_mul,
    Complex.normSq_ofReal]
  rw [Complex.normSq_eq_norm_sq, Complex.norm_exp_ofReal_mul_I]
  ring

/-- T5a. A delay series is the list of individually computed rates (shared normalisation =
the norm each single call computes). -/
theorem series_eq_map (grid : Steps2D ℝ) (f g : Array (Cx ℝ)) (τs : List ℝ) :
    homRateSeries grid f g τs = collectOutcomes (τs.map fun τ => homRate grid f g τ none) := by
  unfold homRateSeries
  simp only [homRate_some_eq_none]

/-- T5b. The setup-level calls are the array-level functions applied to `(J(ω_s,ω_i))_k` and
`(J(ω_i,ω_s))_k` sampled on the same grid. -/
theorem setup_wrappers (J : ℝ → ℝ → Cx ℝ) (grid : Steps2D ℝ) (τs : List ℝ) (δt : ℝ) :
    homRateSeriesSetup J grid τs =
        collectOutcomes (τs.map fun τ => homRate grid (sampled J grid) (sampledSwapped J grid) τ none) ∧
      homVisibilitySetup J grid δt =
        (homRate grid (sampled J grid) (sampledSwapped J grid) δt none).map visibilityOf :=
  ⟨series_eq_map grid _ _ τs, rfl⟩

/-- T6. The rate is invariant under a common non-zero complex scale factor. -/
theorem rate_scale_invariant (grid : Steps2D ℝ) (c : Cx ℝ) (hc : c.toC ≠ 0) (f g : Array (Cx ℝ))
    (hf : grid.len ≤ f.size) (hg : grid.len ≤ g.size) (τ : ℝ) :
    homRate grid (scaleArr c f) (scaleArr c g) τ none = homRate grid f g τ none := by
  have hI : homInterf grid (scaleArr c f) (scaleArr c g) τ =
      Complex.normSq c.toC * homInterf grid f g τ := by
    rw [homInterf_eq grid f g, Finset.mul_sum]
    exact homInterf_eq_sum fun k hk => homTerm_scale grid c f g τ (hk.trans_le hf) (hk.trans_le hg)
  rw [homRate_none_eq_ok grid _ _ τ (by rwa [size_scaleArr]) (by rwa [size_scaleArr]),
    homRate_none_eq_ok grid f g τ hf hg, jsiNorm_scale, hI,
    mul_div_mul_left _ _ (mt Complex.normSq_eq_zero.mp hc)]

/-- T1+T2+T5 combined: for any amplitude function sampled on a square grid with identical axes (non-zero
spectrum) the setup-level visibility call returns a value in `[−1, 1]`, and every rate of the
setup-level series lies in `[0, 1]`. -/
theorem setup_level_mem_unit (J : ℝ → ℝ → Cx ℝ) (n : ℕ) (ax : Steps ℝ) (hn : ax.n = n)
    (hN : 0 < jsiNorm (sampled J ⟨ax, ax⟩)) (δt : ℝ) :
    (∃ v, homVisibilitySetup J ⟨ax, ax⟩ δt = .ok v ∧ -1 ≤ v ∧ v ≤ 1) ∧
      ∀ τ, ∃ r, homRateSeriesSetup J ⟨ax, ax⟩ [τ] = .ok [r] ∧ 0 ≤ r ∧ r ≤ 1 := by
  have hs : (sampled J ⟨ax, ax⟩).size = n * n := (size_sampled J _).trans (Steps2D.len_sq hn hn)
  constructor
  · obtain ⟨r, hr, _, _, h3, h4⟩ :=
      homRate_mem_unit n ⟨ax, ax⟩ hn hn (sampled J ⟨ax, ax⟩) hs hN δt
    refine ⟨visibilityOf r, ?_, h3, h4⟩
    simp only [homVisibilitySetup, homVisibility, exchanged_is_swapArr J n ax hn, hr, Outcome.map_ok]
  · intro τ
    obtain ⟨r, hr, h1, h2, _, _⟩ :=
      homRate_mem_unit n ⟨ax, ax⟩ hn hn (sampled J ⟨ax, ax⟩) hs hN τ
    refine ⟨r, ?_, h1, h2⟩
    rw [(setup_wrappers J ⟨ax, ax⟩ [τ] 0).1, exchanged_is_swapArr J n ax hn]
    simp only [List.map_cons, List.map_nil, hr, collectOutcomes]

/-- a concrete non-symmetric 2×2 spectrum satisfying the hypotheses of `homRate_mem_unit` -/
example : ∃ r, homRate (⟨⟨1, 2, 2⟩, ⟨1, 2, 2⟩⟩ : Steps2D ℝ)
    #[⟨1, 0⟩, ⟨0, 1⟩, ⟨2, 0⟩, ⟨0, 0⟩] (swapArr 2 #[⟨1, 0⟩, ⟨0, 1⟩, ⟨2, 0⟩, ⟨0, 0⟩]) 0.3 none = .ok r ∧
    0 ≤ r ∧ r ≤ 1 ∧ -1 ≤ visibilityOf r ∧ visibilityOf r ≤ 1 :=
  homRate_mem_unit 2 _ rfl rfl _ rfl (by norm_num [jsiNorm, sumList, Cx.normSq]) _

/-- a symmetric 2×2 spectrum satisfying the hypotheses of `symmetric_zero` -/
example : homRate (⟨⟨1, 2, 2⟩, ⟨1, 2, 2⟩⟩ : Steps2D ℝ)
    #[⟨1, 0⟩, ⟨0, 1⟩, ⟨0, 1⟩, ⟨3, 0⟩] (swapArr 2 #[⟨1, 0⟩, ⟨0, 1⟩, ⟨0, 1⟩, ⟨3, 0⟩]) 0 none = .ok 0 :=
  (symmetric_zero 2 _ rfl rfl _ rfl (by norm_num [jsiNorm, sumList, Cx.normSq]) (by
    intro k hk
    have : k = 0 ∨ k = 1 ∨ k = 2 ∨ k = 3 := by omega
    rcases this with h | h | h | h <;> subst h <;> rfl)).1

/-! ## composed model (grid level)

The theorems above are about the HOM layer with the amplitude arrays (or an arbitrary amplitude
function `J`) as inputs.  Below they are lifted to the COMPOSED model (`Spdc/Model/ComposeGrid.lean`):
the only inputs are a primitive setup, the Simpson division count, the range and the delays; the
spectrum object (`JointSpectrum::new` through the composed `try_as_optimum`), both amplitude arrays and
the dip delay (group velocities from the composed indices) are computed from them through all layers.
The hypotheses say that the calls involved return (`= .ok …`): a spectrum object exists, the
joint-spectrum view of the setup exists (optimum idler, walk-off derivative, `k_eff`), the division
count passes the assertions of the Simpson rule. -/

/-- composed model, T5 lifted: the composed series over ANY range (frequency, wavelength or
sum/difference space) is the layer's `homRateSeriesSetup` of the total composed amplitude function on
the frequency space the range converts to — each entry is an individually computed rate. -/
theorem compose_hom_series_eq (S : Compose.Setup ℝ) (divs : Nat) (js : Compose.JS ℝ)
    (hjs : Compose.jointSpectrum S divs = .ok js) (J : PM.JSetup ℝ) (hJ : Compose.jsetup S = .ok J)
    (q : List (ℝ × ℝ) × ℝ) (hq : Compose.simpsonRule divs = .ok q) (R : Compose.Ranges ℝ) (τs : List ℝ) :
    Compose.homRateSeries S divs R τs = homRateSeriesSetup (PM.jsa J q.1 q.2) R.toFrequencySpace τs := by
  obtain ⟨rfl, rfl, -⟩ := Compose.jointSpectrum_ok hjs
  unfold Compose.homRateSeries
  simp only [hjs, Outcome.bind_ok, Compose.homArrays_eq hJ hq]
  rfl

/-- composed model, T1+T2+T5 lifted: for every primitive setup, every square range with identical
signal and idler axes on which the composed spectrum is not identically zero, and every delay, the
rate returned by the composed `SPDC::hom_rate_series` lies in `[0, 1]`. -/
theorem compose_hom_rate_mem_unit (S : Compose.Setup ℝ) (divs : Nat) (js : Compose.JS ℝ)
    (hjs : Compose.jointSpectrum S divs = .ok js) (J : PM.JSetup ℝ) (hJ : Compose.jsetup S = .ok J)
    (q : List (ℝ × ℝ) × ℝ) (hq : Compose.simpsonRule divs = .ok q)
    (n : ℕ) (ax : Steps ℝ) (hn : ax.n = n)
    (hN : 0 < jsiNorm (sampled (PM.jsa J q.1 q.2) ⟨ax, ax⟩)) (τ : ℝ) :
    ∃ r, Compose.homRateSeries S divs (.freq ⟨ax, ax⟩) [τ] = .ok [r] ∧ 0 ≤ r ∧ r ≤ 1 := by
  rw [compose_hom_series_eq S divs js hjs J hJ q hq (.freq ⟨ax, ax⟩) [τ]]
  exact (setup_level_mem_unit (PM.jsa J q.1 q.2) n ax hn hN 0).2 τ

/-- composed model: the composed `SPDC::hom_visibility` returns the composed dip delay
`hom_time_delay` and a visibility in `[−1, 1]` (same hypotheses, and `hδ`: the dip delay
evaluates). -/
theorem compose_hom_visibility_mem (S : Compose.Setup ℝ) (divs : Nat) (js : Compose.JS ℝ)
    (hjs : Compose.jointSpectrum S divs = .ok js) (J : PM.JSetup ℝ) (hJ : Compose.jsetup S = .ok J)
    (q : List (ℝ × ℝ) × ℝ) (hq : Compose.simpsonRule divs = .ok q)
    (δt : ℝ) (hδ : Compose.homTimeDelay S = .ok δt)
    (n : ℕ) (ax : Steps ℝ) (hn : ax.n = n)
    (hN : 0 < jsiNorm (sampled (PM.jsa J q.1 q.2) ⟨ax, ax⟩)) :
    ∃ v, Compose.homVisibility S divs (.freq ⟨ax, ax⟩) = .ok (δt, v) ∧ -1 ≤ v ∧ v ≤ 1 := by
  obtain ⟨v, hv, h0, h1⟩ := (setup_level_mem_unit (PM.jsa J q.1 q.2) n ax hn hN δt).1
  refine ⟨v, ?_, h0, h1⟩
  obtain ⟨rfl, rfl, -⟩ := Compose.jointSpectrum_ok hjs
  unfold Compose.homVisibility
  simp only [hjs, Outcome.bind_ok, Compose.Ranges.toFrequencySpace, Compose.homArrays_eq hJ hq, hδ]
  rw [show Hom.homVisibility _ _ _ δt = .ok v from hv, Outcome.map_ok]

/-- non-vacuity of the structural hypotheses: Simpson-50 passes the assertions (`hq`: the rule exists) -/
example : ∃ q, (Compose.simpsonRule 50 : Outcome (List (ℝ × ℝ) × ℝ)) = .ok q :=
  ⟨_, rfl⟩

/-- … and `hn` holds of a two-point axis (used for both axes: a square range) -/
example : (⟨1, 2, 2⟩ : Steps ℝ).n = 2 := rfl

/-- the hypotheses `hjs`, `hJ`, `hq` of the composed theorems hold for the concrete setup `Compose.exGrid` -/
example : ∃ js J q, Compose.jointSpectrum Compose.exGrid 50 = .ok js ∧ Compose.jsetup Compose.exGrid = .ok J ∧
    (Compose.simpsonRule 50 : Outcome (List (ℝ × ℝ) × ℝ)) = .ok q := Compose.exGrid_available

end Spdc.Props.C09
