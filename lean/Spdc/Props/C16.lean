import Spdc.Real.PMType
import Spdc.Real.Fixpoint
import Spdc.Real.Beam
import Spdc.Real.Poling
import Spdc.Model.ComposeAuto
-- `Real.Beam` and `Real.Poling` only for the instances `FMod ℝ` and `AsUsize ℝ` of the composed section
/-!
# C16 — config ⇄ setup round trip, "auto" = explicit optimum, names parse

Property theorems only.
-/
namespace Spdc.Props.C16
open Spdc Spdc.Cfg Spdc.Outcome
open Spdc.PM hiding Setup Beam twoPi sec cLight

/-! ## T4 — string forms -/

/-- every phase-matching type parses from its own printed form -/
theorem pm_print_parse : ∀ t ∈ PMType.all, parse t.printL = some t := by decide

/-- the enumeration is complete -/
theorem pm_all_complete : ∀ t : PMType, t ∈ PMType.all := by intro t; cases t <;> decide

/-- every spelling found in the documentation, doctests, unit tests and README parses to the
documented type -/
theorem pm_documented : ∀ p ∈ documented, parse p.1 = some p.2 := by decide +kernel

/-- whatever string the parser accepts as type `t` ends in the signal and idler letters of `t`
(case-folded), carries `t`'s pump letter at most two characters before them, and everything before
the pump letter is blank/underscore padding, optionally preceded by `type`, a separator and `t`'s
own digit -/
theorem pm_parse_sound (cs : List Char) (t : PMType) (h : parse cs = some t) :
    ∃ pre k mid a b, cs = pre ++ k :: mid ++ [a, b] ∧ mid.length ≤ 2 ∧
      lower k = t.pumpPol.letter ∧ lower a = t.signalPol.letter ∧ lower b = t.idlerPol.letter ∧
      mid.all notNl = true ∧ matchHead t.digit pre = true :=
  matchRe_sound (parse_matchT h)

/-- the name of each type states its polarizations: `Type<D>_<p>_<s><i>` -/
theorem pm_polarizations : ∀ t ∈ PMType.all,
    t.printL = ['T', 'y', 'p', 'e', t.digit, '_', t.pumpPol.letter, '_', t.signalPol.letter,
      t.idlerPol.letter] := by decide

/-- the inverse exchanges signal and idler polarizations, keeps the pump's, and is an involution -/
theorem pm_inverse : ∀ t ∈ PMType.all,
    t.inverse.signalPol = t.idlerPol ∧ t.inverse.idlerPol = t.signalPol ∧
      t.inverse.pumpPol = t.pumpPol ∧ t.inverse.inverse = t :=
  fun t _ => ⟨t.inverse_signalPol, t.inverse_idlerPol, t.inverse_pumpPol, t.inverse_inverse⟩

/-- polarizations parse from `o`, `ordinary`, `e`, `extraordinary` and from their printed form -/
theorem pol_parse :
    Pol.parse ['o'] = some .o ∧ Pol.parse "ordinary".toList = some .o ∧
    Pol.parse ['e'] = some .e ∧ Pol.parse "extraordinary".toList = some .e ∧
    Pol.parse ['O'] = some .o ∧ Pol.parse "ORDINARY".toList = some .o ∧
    Pol.parse ['E'] = some .e ∧ Pol.parse "ExtraOrdinary".toList = some .e ∧
    (∀ p : Pol, Pol.parse p.printL = some p) := by
  refine ⟨by decide +kernel, by decide +kernel, by decide +kernel, by decide +kernel,
    by decide +kernel, by decide +kernel, by decide +kernel, by decide +kernel, ?_⟩
  intro p; cases p <;> decide +kernel

/-- …in any letter case: the parser only looks at the ASCII-lower-cased string -/
theorem pol_parse_case_insensitive (cs ds : List Char) (h : cs.map lower = ds.map lower) :
    Pol.parse cs = Pol.parse ds := by
  unfold Pol.parse; rw [h]

/-! ## T2, the two ingredients — rounding is idempotent, a unit conversion round-trips -/

/-- rounding to 4 decimals is idempotent -/
theorem sigfigs_idem (x : ℝ) : sigfigs (sigfigs x) = sigfigs x := Cfg.sigfigs_idem x

/-- the rounded value is within half a unit of the 4th decimal of the physical value -/
theorem sigfigs_close (x : ℝ) : |sigfigs x - x| ≤ 1 / 20000 := by
  have h := round_close (x * 10000)
  rw [sigfigs_eq, show Transc.round (x * 10000) / 10000 - x
    = (Transc.round (x * 10000) - x * 10000) / 10000 by ring, abs_div,
    abs_of_pos (by norm_num : (0 : ℝ) < 10000)]
  linarith

/-- converting a value to SI with a non-zero unit and back is the identity -/
theorem unit_roundtrip (v u : ℝ) (hu : u ≠ 0) : v * u / u = v := Cfg.unit_roundtrip v u hu

/-! ## T1 — the back-conversion, field by field -/

/-- every numeric field of the configuration of a setup is the physical value divided by the
field's unit (°, µm, nm, °C offset, mW, pm/V) and rounded to 4 decimals; the idler and both waist
positions are explicit, the external angles are dropped, a beam azimuth that rounds up to 360 is
written as 0 (`wrap360`), the poling period is the stored magnitude
(the sign is re-derived on the way back) and the Gaussian apodization width is a rounded length -/
theorem asConfig_fields (s : Setup ℝ) :
    (asConfig s).crystal.thetaDeg = .param (sigfigs (s.crystal.theta / deg)) ∧
    (asConfig s).crystal.phiDeg = sigfigs (s.crystal.phi / deg) ∧
    (asConfig s).crystal.lengthUm = sigfigs (s.crystal.length / micro) ∧
    (asConfig s).crystal.temperatureC = sigfigs (s.crystal.temperature - kelvin0) ∧
    (asConfig s).pump.wavelengthNm = sigfigs (s.pump.wavelength / nano) ∧
    (asConfig s).pump.waistUm = sigfigs (s.pump.waistX / micro) ∧
    (asConfig s).pump.bandwidthNm = sigfigs (s.pumpBandwidth / nano) ∧
    (asConfig s).pump.averagePowerMw = sigfigs (s.pumpAveragePower / 1.0) ∧
    (asConfig s).pump.spectrumThreshold = some s.pumpSpectrumThreshold ∧
    (asConfig s).signal = { wavelengthNm := sigfigs (s.signal.wavelength / nano),
                            phiDeg := wrap360 (sigfigs (s.signal.phi / deg)),
                            thetaDeg := some (sigfigs (s.signal.theta / deg)),
                            thetaExternalDeg := none,
                            waistUm := sigfigs (s.signal.waistX / micro),
                            waistPositionUm := .param (sigfigs (s.signalWaistPos / micro)) } ∧
    (asConfig s).idler = .param { wavelengthNm := sigfigs (s.idler.wavelength / nano),
                                  phiDeg := wrap360 (sigfigs (s.idler.phi / deg)),
                                  thetaDeg := some (sigfigs (s.idler.theta / deg)),
                                  thetaExternalDeg := none,
                                  waistUm := sigfigs (s.idler.waistX / micro),
                                  waistPositionUm := .param (sigfigs (s.idlerWaistPos / micro)) } ∧
    (asConfig s).deffPmPerVolt = sigfigs (s.deff / pmPerVolt) ∧
    (∀ p neg a, s.pp = .on p neg a →
      (asConfig s).poling = .config (.param (sigfigs (p / micro))) (Apod.toCfg a)) ∧
    (s.pp = .off → (asConfig s).poling = .off) ∧
    (∀ f, Apod.toCfg (.gaussian f : Apod ℝ) = .gaussian (sigfigs (f / micro))) ∧
    ((∀ x : ℝ, 0 ≤ x → x < 360 → wrap360 x = x) ∧ wrap360 (360 : ℝ) = 0) := by
  exact ⟨rfl, rfl, rfl, rfl, rfl, rfl, rfl, rfl, rfl, rfl, rfl, rfl,
    fun _ _ _ h => congrArg Poling.toCfg h, fun h => congrArg Poling.toCfg h, fun _ => rfl,
    fun x h0 h1 => wrap360_of_mem h0 h1, wrap360_360⟩

/-- **D6 (pinned tree).** Without the `fix:` the idler's waist position was the one field that is
not rounded: e.g. a position of 0.00001 µm is emitted as such instead of 0. -/
theorem asConfig_pinned_idler_unrounded :
    ∃ s : Setup ℝ, (asConfigG false s).idler ≠ (asConfigG true s).idler := by
  let b : Beam ℝ := ⟨.o, 0, 0, 1, 0, 0⟩
  refine ⟨{ crystal := ⟨0, .t0_o_oo, 0, 0, 0, 0, false⟩, signal := b, idler := b, pump := b,
            pumpBandwidth := 0, pumpAveragePower := 0, pumpSpectrumThreshold := 0, pp := .off,
            signalWaistPos := 0, idlerWaistPos := micro / 100000, deff := 0 }, ?_⟩
  simp only [asConfigG, Beam.toCfg, ne_eq, Auto.param.injEq, BeamCfg.mk.injEq, true_and,
    Bool.false_eq_true, if_false, if_true]
  have h1 : (micro : ℝ) / 100000 / micro = 1 / 100000 := by
    field_simp [micro_ne]
  rw [h1, sigfigs_eq, round_eq_floor]
  have : ⌊(1 : ℝ) / 100000 * 10000 + 1 / 2⌋ = 0 := by
    rw [Int.floor_eq_iff]; constructor <;> norm_num
  norm_num [this]

/-! ## T2, the statement — the round trip is a fix-point -/

/-- converting the configuration of a setup to a setup and back reproduces the configuration
exactly (over ℝ; the statement's "to 1e-9 relative" is the floating-point shadow of this equality,
observed by the predicate search).  Hypotheses: the setup is in the statement's domain
(`Canonical`: it came from a configuration, so waist positions are ≤ 0 and the period is a
magnitude; its beam angles are not rounded across the end of their interval; λs > λp survives
rounding) and the sign oracle answers. -/
theorem config_fixpoint (ext : Ext ℝ) (s : Setup ℝ) (hc : Canonical s)
    (hsign : ∀ a b c, ∃ neg, ext.signNeg a b c = .ok neg) :
    (tryAsSpdc (asConfig s) ext).map asConfig = .ok (asConfig s) := by
  obtain ⟨signal, hsig, hsigc⟩ := map_eq_ok.mp (beam_fix ext s.signal s.signalWaistPos
    (asConfig s).crystal.toSetup.pmType.signalPol (asConfig s).crystal.toSetup hc.signal hc.wps)
  obtain ⟨idler, hid, hidc⟩ := map_eq_ok.mp (beam_fix ext s.idler s.idlerWaistPos
    (asConfig s).crystal.toSetup.pmType.idlerPol (asConfig s).crystal.toSetup hc.idler hc.wpi)
  have hl : lsLeLp signal ((asConfig s).pump.asBeam (asConfig s).crystal.toSetup) = false := by
    rw [← Bool.not_eq_true, lsLeLp_iff (cfg := asConfig s) hsig, not_le]
    exact hc.wavelengths
  obtain ⟨pp, hpp, hppc⟩ := map_eq_ok.mp (poling_fix ext s.pp _ _ (asConfig s).crystal.toSetup hl
    (hsign _ _ _) hc.period)
  -- the configuration of a setup has nothing on "auto": the second conversion runs straight through
  rw [tryAsSpdc_explicit (cfg := asConfig s) rfl rfl rfl rfl hsig hl hpp hid]
  simp only [map_ok, asConfig, asConfigG, Outcome.ok.injEq, if_true]
  rw [crystal_fix, hsigc, hidc, hppc]
  simp only [PumpCfg.asBeam, Cfg.Beam.new, Cfg.Beam.wavelength, wl_roundtrip, nano_roundtrip,
    micro_roundtrip, toDeff_roundtrip, one_roundtrip, sigfigs_idem, Option.getD_some]

/-- `Canonical` is satisfiable: a collinear 775 nm → 1550 nm setup -/
example : ∃ s : Setup ℝ, Canonical s := by
  let sig : Beam ℝ := ⟨.e, 0, 0, wlToFreq (1550 * nano), 0, 0⟩
  let pmp : Beam ℝ := ⟨.e, 0, 0, wlToFreq (775 * nano), 0, 0⟩
  have z : sigfigs ((0 : ℝ) / deg) = 0 := by
    rw [zero_div]; simpa using sigfigs_of_grid 0
  have hs : StableAngles sig := ⟨by rw [z], by rw [z]; norm_num, by rw [z]; norm_num, by rw [z]; norm_num⟩
  refine ⟨{ crystal := ⟨1, .t2_e_eo, 0, 0, 0, 0, false⟩, signal := sig, idler := sig, pump := pmp,
            pumpBandwidth := 0, pumpAveragePower := 0, pumpSpectrumThreshold := 0, pp := .off,
            signalWaistPos := 0, idlerWaistPos := 0, deff := 0 },
          ⟨hs, hs, le_rfl, le_rfl, (fun _ _ _ h => nomatch h), ?_⟩⟩
  show sigfigs (freqToWl (wlToFreq (775 * nano)) / nano) < sigfigs (freqToWl (wlToFreq (1550 * nano)) / nano)
  rw [wl_roundtrip, wl_roundtrip, nano_roundtrip, nano_roundtrip]
  have a : sigfigs (775 : ℝ) = 775 := by
    have := sigfigs_of_grid 7750000; norm_num at this; exact this
  have b : sigfigs (1550 : ℝ) = 1550 := by
    have := sigfigs_of_grid 15500000; norm_num at this; exact this
  rw [a, b]; norm_num

/-! ## T3 — "auto" is the explicit optimum; defaults -/

/-- each field given as "auto" is exactly what the corresponding numeric sub-routine returns on
the setup as assembled so far (crystal → pump → signal → poling → crystal angle → idler → waist
positions): the crystal angle is computed on the crystal with the placeholder angle, the poling
period before the angle step, the idler on the final crystal and poling, the waist positions on the
final crystal. -/
theorem auto_is_explicit (cfg : Config ℝ) (ext : Ext ℝ) (s : Setup ℝ)
    (h : tryAsSpdc cfg ext = .ok s) :
    (cfg.crystal.thetaDeg.isAuto = true →
      ext.theta cfg.crystal.toSetup s.signal s.pump = .ok s.crystal.theta) ∧
    (cfg.idler = .auto → ext.idler s.signal s.pump s.crystal s.pp = .ok s.idler) ∧
    (cfg.signal.waistPositionUm = .auto →
      ext.waistPos s.crystal s.signal.wavelength s.signal.pol = .ok s.signalWaistPos) ∧
    (idlerWaistCfg cfg = .auto →
      ext.waistPos s.crystal s.idler.wavelength s.idler.pol = .ok s.idlerWaistPos) ∧
    (∀ apod, cfg.poling = .config .auto apod →
      ∃ per, ext.period s.signal s.pump cfg.crystal.toSetup = .ok per ∧
        s.pp = Poling.new per (Apod.ofCfg apod)) := by
  obtain ⟨-, hg, hpp, hc1, hid, hiwp, hswp, -⟩ := tryAsSpdcG_ok h
  have hg := hg rfl
  refine ⟨fun ha => ?_, fun hi => ?_, fun hw => ?_, fun hw => ?_, fun apod hp => ?_⟩
  · rcases thetaStep_ok hc1 with ⟨hna, _⟩ | ⟨_, _, th, hth, hc⟩
    · rw [ha] at hna; cases hna
    · rw [hc]; rwa [optimumTheta_of_guard hg] at hth
  · rwa [idlerStep, hi, optimumIdler_of_guard hg] at hid
  · rwa [hw] at hswp
  · rwa [hw] at hiwp
  · rw [hp, PolingCfg.tryAsPoling, optimumPolingPeriod_of_guard hg, map_eq_ok] at hpp
    obtain ⟨per, hper, hpp⟩ := hpp
    exact ⟨per, hper, hpp.symm⟩

/-- explicit waist positions are stored as `-|focus|` in metres -/
theorem explicit_waist_positions (cfg : Config ℝ) (ext : Ext ℝ) (s : Setup ℝ)
    (h : tryAsSpdc cfg ext = .ok s) :
    (∀ f, cfg.signal.waistPositionUm = .param f → s.signalWaistPos = -|f| * micro) ∧
    (∀ f, idlerWaistCfg cfg = .param f → s.idlerWaistPos = -|f| * micro) := by
  obtain ⟨-, -, -, -, -, hiwp, hswp, -⟩ := tryAsSpdcG_ok h
  constructor
  · intro f hf
    simp only [waistPosition, hf, Outcome.ok.injEq] at hswp
    exact hswp.symm
  · intro f hf
    simp only [waistPosition, hf, Outcome.ok.injEq] at hiwp
    exact hiwp.symm

/-- omitted optional fields behave as the documented defaults: `phi_deg` 0, crystal `theta_deg`
"auto", `counter_propagation` false, `waist_position_um` "auto", `idler` "auto", no periodic poling,
and (applied in `try_as_spdc`) `spectrum_threshold` 1e-2 -/
theorem defaults (r : RawConfig ℝ) (ext : Ext ℝ) :
    r.fill = ({ r with
      crystalPhiDeg := some (r.crystalPhiDeg.getD 0.0)
      crystalThetaDeg := some (r.crystalThetaDeg.getD .auto)
      counterProp := some (r.counterProp.getD false)
      signalPhiDeg := some (r.signalPhiDeg.getD 0.0)
      signalWaistPositionUm := some (r.signalWaistPositionUm.getD .auto)
      idler := some (r.idler.getD .auto)
      poling := some (r.poling.getD .off) } : RawConfig ℝ).fill ∧
    tryAsSpdc r.fill ext =
      tryAsSpdc { r.fill with pump := { r.fill.pump with
        spectrumThreshold := some (r.fill.pump.spectrumThreshold.getD 1.0e-2) } } ext := by
  constructor
  · simp [RawConfig.fill]
  · rfl

/-- the crate's default configuration is the all-defaults one: only the required fields given -/
example : (defaultConfig : Config ℝ) =
    ({ kind := 1, pmType := .t2_e_eo, crystalPhiDeg := none, crystalThetaDeg := none,
       lengthUm := 2000.0, temperatureC := 20.0, counterProp := none,
       pump := ⟨775.0, 100.0, 5.53, 1.0, some 1.0e-2⟩, signalWavelengthNm := 1550.0,
       signalPhiDeg := none, signalThetaDeg := some 0.0, signalThetaExternalDeg := none,
       signalWaistUm := 100.0, signalWaistPositionUm := none, idler := none, poling := none,
       deffPmPerVolt := 1.0 } : RawConfig ℝ).fill := rfl

/-! ## composed model

Above, the numeric sub-routines are an arbitrary bundle `ext`.  In `Compose.composedExt`
(`Spdc/Model/ComposeAuto.lean`) every one of them is computed by the composed model from the
configuration's own numbers, so `Compose.fromConfig` takes nothing from the real crate. -/

/-- composed model: `fromConfig` is, by definition, `try_as_spdc` run with the composed routines
followed by the adapter to the primitive record -/
theorem compose_fromConfig_refines (cfg : Config ℝ) :
    Compose.fromConfig cfg = (tryAsSpdc cfg Compose.composedExt).map (Compose.toCompose cfg) ∧
    Compose.jsiFromConfig cfg = fun divs ωs ωi =>
      ((tryAsSpdc cfg Compose.composedExt).map (Compose.toCompose cfg)).bind fun S =>
        Compose.jsi S divs ωs ωi := ⟨rfl, rfl⟩

/-- composed model, T3 with the concrete routines: every `"auto"` field of the setup that the
composed `try_as_spdc` produces is the value of the composed optimiser on the setup assembled so far —
the crystal angle is the Nelder–Mead minimiser of the composed `|Δk_z(θ)|` started at `(π/6, π/6+1)`
on the crystal with the placeholder angle, the poling period that of `|Δk_z(Λ)|` computed before the
angle step, the idler the optimum idler on the final crystal and poling, the waist positions
`−L/(2 n_z)` with the composed index.  (The wavelength guard inside the composed routines has
passed, so they are the bare optimisers.) -/
theorem compose_auto_is_explicit (cfg : Config ℝ) (s : Setup ℝ) (h : Compose.trySpdc cfg = .ok s) :
    (cfg.crystal.thetaDeg.isAuto = true →
      Compose.optimumThetaB (Compose.carrier cfg.crystal.toSetup) (Compose.beamOfCfg s.signal)
        (Compose.beamOfCfg s.pump) = .ok s.crystal.theta) ∧
    (cfg.idler = .auto →
      (Compose.optimumIdlerB (Compose.carrier s.crystal) (Compose.beamOfCfg s.signal)
        (Compose.beamOfCfg s.pump) (Compose.ppDKofCfg s.pp)).map Compose.cfgOfBeam = .ok s.idler) ∧
    (cfg.signal.waistPositionUm = .auto →
      s.signalWaistPos = Compose.optimalWaistPositionAt (Compose.carrier s.crystal) s.signal.wavelength
        (Compose.polIndex s.signal.pol)) ∧
    (idlerWaistCfg cfg = .auto →
      s.idlerWaistPos = Compose.optimalWaistPositionAt (Compose.carrier s.crystal) s.idler.wavelength
        (Compose.polIndex s.idler.pol)) ∧
    (∀ apod, cfg.poling = .config .auto apod →
      ∃ per, Compose.optimumPolingPeriodB (Compose.carrier cfg.crystal.toSetup)
          (Compose.beamOfCfg s.signal) (Compose.beamOfCfg s.pump) = .ok per ∧
        s.pp = Poling.new per (Apod.ofCfg apod)) := by
  have h' : tryAsSpdc cfg Compose.composedExt = .ok s := h
  obtain ⟨h1, h2, h3, h4, h5⟩ := auto_is_explicit cfg Compose.composedExt s h'
  have hguard : lsLeLp s.signal s.pump = false := (tryAsSpdcG_ok h').2.1 rfl
  refine ⟨fun ha => ?_, h2, fun hw => ?_, fun hw => ?_, fun apod hp => ?_⟩
  · simpa [Compose.composedExt, hguard] using h1 ha
  · simpa [Compose.composedExt] using (h3 hw).symm
  · simpa [Compose.composedExt] using (h4 hw).symm
  · obtain ⟨per, hper, hpp⟩ := h5 apod hp
    exact ⟨per, by simpa [Compose.composedExt, hguard] using hper, hpp⟩

end Spdc.Props.C16
