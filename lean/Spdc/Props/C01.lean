import Spdc.Real.CrystalClass
/-!
# C01 — principal refractive indices: Sellmeier data, bounds, monotonicity, class, windows, ids,
temperature law

All statements are about the ℝ instance of `Spdc/Model/Crystals.lean`, the model whose Float instance
is compared with `CrystalType::get_indices` / `get_meta` / `from_string` on every check run.
-/
namespace Spdc.Props.C01
open Spdc Spdc.Crystals

/-- T1. Every Sellmeier equation of the crate is `A' + Σₖ Pₖ/(λ² − Cₖ) − D·λ²` with at most one pole
below the window and one above (`pole2`).  `sellA`, `sellP`, `sellG` are literally of that form; for
the other four shapes it is spelt out here.  The sign and pole conditions (`Pₖ > 0`, `D ≥ 0`, `Cₖ`
outside the window) are not part of this statement: they are the hypotheses of `sell*_anti`. -/
theorem nSq_canonical (A B C D P C1 C2 B1 B2 c1 c2 x l : ℝ) :
    (x ≠ C → sellB A B C D x = (A + B) + B * C / (x - C) - D * x) ∧
    (x ≠ C1 → sellK A B C1 P C2 x = (A + B) + B * C1 / (x - C1) + P / (x - C2)) ∧
    (l ≠ 0 → l * l ≠ c1 * c1 → l * l ≠ c2 * c2 →
      sellInv A B1 c1 B2 c2 l =
        (A + B1 + B2) + B1 * (c1 * c1) / (l * l - c1 * c1) + B2 * (c2 * c2) / (l * l - c2 * c2)) ∧
    (x ≠ c1 → x ≠ c2 →
      sellStd A B1 B2 0.0 c1 c2 0.0 x = (A + B1 + B2) + B1 * c1 / (x - c1) + B2 * c2 / (x - c2)) := by
  refine ⟨fun h => ?_, fun h => ?_, fun h0 h1 h2 => ?_, fun h1 h2 => ?_⟩
  · simp [sellB_pole2 0 h, pole2]
  · rw [sellK_pole2 h, pole2]; ring
  · simp [sellInv_pole2 h0 h1 h2, pole2]
  · simp [sellStd_pole2 h1 h2, pole2]

/-- T2. Every principal index strictly decreases with increasing wavelength (metres) over the whole
declared window, for every crystal and every temperature from −50 °C to 200 °C. -/
theorem indices_strictAnti_in_wavelength (c : Crystal) {T : ℝ} (hT1 : Tmin ≤ T) (hT2 : T ≤ Tmax)
    {lam1 lam2 : ℝ} (h1 : windowLo c ≤ lam1) (h12 : lam1 < lam2) (h2 : lam2 ≤ windowHi c) :
    (indices c lam2 T).x < (indices c lam1 T).x ∧ (indices c lam2 T).y < (indices c lam1 T).y ∧
    (indices c lam2 T).z < (indices c lam1 T).z :=
  ⟨indices_comp_anti c hT1 hT2 h1 h12 h2 0, indices_comp_anti c hT1 hT2 h1 h12 h2 1,
   indices_comp_anti c hT1 hT2 h1 h12 h2 2⟩

/-- T3. The squared indices stay above 1 on the window, so the square roots in the code are taken of
positive numbers (no NaN / Mathlib-totalisation artefact). -/
theorem nSq_pos (c : Crystal) {T : ℝ} (hT1 : Tmin ≤ T) (hT2 : T ≤ Tmax) {lam : ℝ}
    (h1 : windowLo c ≤ lam) (h2 : lam ≤ windowHi c) :
    1 < (nSq c (microns lam) T).x ∧ 1 < (nSq c (microns lam) T).y ∧ 1 < (nSq c (microns lam) T).z :=
  have h := fun i => lt_trans (by norm_num) ((nSq_good c hT1 hT2 i).bounds (microns_mem h1 h2)).1
  ⟨h 0, h 1, h 2⟩

/-- T3. Every principal index lies strictly between 1 and 4. -/
theorem indices_bounds (c : Crystal) {T : ℝ} (hT1 : Tmin ≤ T) (hT2 : T ≤ Tmax) {lam : ℝ}
    (h1 : windowLo c ≤ lam) (h2 : lam ≤ windowHi c) :
    (1 < (indices c lam T).x ∧ (indices c lam T).x < 4) ∧
    (1 < (indices c lam T).y ∧ (indices c lam T).y < 4) ∧
    (1 < (indices c lam T).z ∧ (indices c lam T).z < 4) :=
  ⟨indices_comp_bounds c hT1 hT2 h1 h2 0, indices_comp_bounds c hT1 hT2 h1 h2 1,
   indices_comp_bounds c hT1 hT2 h1 h2 2⟩

/-- non-vacuity: KTP at the window's lower edge, −50 °C -/
example : 1 < (indices Crystal.KTP (350e-9 : ℝ) Tmin).y ∧ (indices Crystal.KTP (350e-9 : ℝ) Tmin).y < 4 :=
  (indices_bounds .KTP (le_refl _) (by norm_num [Tmin, Tmax]) (by norm_num [windowLo])
    (by norm_num [windowHi])).2.1

/-- the hypotheses are satisfiable: BBO at 800 nm < 1550 nm, 20 °C -/
example : (indices Crystal.BBO_1 (1550e-9 : ℝ) Tref).z < (indices Crystal.BBO_1 (800e-9 : ℝ) Tref).z :=
  (indices_strictAnti_in_wavelength .BBO_1 (by norm_num [Tmin, Tref]) (by norm_num [Tmax, Tref])
    (by norm_num [windowLo]) (by norm_num) (by norm_num [windowHi])).2.2

/-- T4. The indices have the declared optical class at every wavelength of the window and every
temperature of the range: uniaxial crystals have `n_x = n_y`, every crystal declared
`NegativeUniaxial` has `n_e = n_z < n_o = n_x`, the positive biaxial ones have `n_z` above `n_x` and
`n_y`.  No built-in crystal is declared `PositiveUniaxial` or `NegativeBiaxial`; the statement says
nothing about the latter.  The strict inequalities rest on the kernel's evaluation of the partition
certificates of `CrystalCertData.lean` (found by the untrusted `tools/c01_cert.py`). -/
theorem optical_class (c : Crystal) {T : ℝ} (hT1 : Tmin ≤ T) (hT2 : T ≤ Tmax) {lam : ℝ}
    (h1 : windowLo c ≤ lam) (h2 : lam ≤ windowHi c) :
    ((axisType c).isUniaxial = true → (indices c lam T).x = (indices c lam T).y) ∧
    (axisType c = .NegativeUniaxial → (indices c lam T).z < (indices c lam T).x) ∧
    (axisType c = .PositiveUniaxial → (indices c lam T).x < (indices c lam T).z) ∧
    (axisType c = .PositiveBiaxial →
      (indices c lam T).x < (indices c lam T).z ∧ (indices c lam T).y < (indices c lam T).z) := by
  cases c
  case BBO_1 => exact ⟨fun _ => rfl, fun _ => bbo_z_lt_x hT1 hT2 h1 h2, nofun, nofun⟩
  case KTP => exact ⟨nofun, nofun, nofun, fun _ => ⟨ktp_x_lt_z hT1 hT2 h1 h2, ktp_y_lt_z hT1 hT2 h1 h2⟩⟩
  case BiBO_1 => exact ⟨nofun, nofun, nofun, fun _ => ⟨bibo_x_lt_z hT1 hT2 h1 h2, bibo_y_lt_z hT1 hT2 h1 h2⟩⟩
  case LiNbO3_1 => exact ⟨fun _ => rfl, fun _ => ln_z_lt_x hT1 hT2 h1 h2, nofun, nofun⟩
  case LiNb_MgO => exact ⟨fun _ => rfl, fun _ => mgo_z_lt_x hT1 hT2 h1 h2, nofun, nofun⟩
  case KDP_1 => exact ⟨fun _ => rfl, fun _ => kdp_z_lt_x hT1 hT2 h1 h2, nofun, nofun⟩
  case AgGaSe2_1 => exact ⟨fun _ => rfl, fun _ => ags1_z_lt_x hT1 hT2 h1 h2, nofun, nofun⟩
  case AgGaSe2_2 => exact ⟨fun _ => rfl, fun _ => ags2_z_lt_x hT1 hT2 h1 h2, nofun, nofun⟩
  case LiIO3_2 => exact ⟨fun _ => rfl, fun _ => lio2_z_lt_x hT1 hT2 h1 h2, nofun, nofun⟩
  case LiIO3_1 => exact ⟨fun _ => rfl, fun _ => lio1_z_lt_x hT1 hT2 h1 h2, nofun, nofun⟩
  case AgGaS2_1 => exact ⟨fun _ => rfl, fun _ => ags_z_lt_x hT1 hT2 h1 h2, nofun, nofun⟩

/-- the declared axis type in the metadata is the one the class theorem speaks about -/
theorem meta_axisType (c : Crystal) : (getMeta (α := ℝ) c).axisType = axisType c := by
  cases c <;> rfl

/-- non-vacuity: AgGaS2 at its narrowest point (500 nm, 200 °C) -/
example : (indices Crystal.AgGaS2_1 (500e-9 : ℝ) Tmax).z < (indices Crystal.AgGaS2_1 (500e-9 : ℝ) Tmax).x :=
  (optical_class .AgGaS2_1 (by norm_num [Tmin, Tmax]) (le_refl _) (by norm_num [windowLo])
    (by norm_num [windowHi])).2.1 rfl

/-- T5. Every declared transmission window is an interval inside 100 nm – 20 µm. -/
theorem meta_wellformed (c : Crystal) :
    ∃ lo hi : ℝ, (getMeta (α := ℝ) c).range = some (lo, hi) ∧
      (100e-9 : ℝ) ≤ lo ∧ lo < hi ∧ hi ≤ (20e-6 : ℝ) := by
  refine ⟨windowLo c, windowHi c, ?_, ?_⟩
  · cases c <;> rfl
  · cases c <;> simp only [windowLo, windowHi] <;> norm_num

/-- identifiers are unique -/
theorem ids_nodup : ((allMeta (α := ℝ)).map (·.id)).Nodup := by
  decide

/-- printing then parsing gives the same crystal -/
theorem fromString_toString (c : Crystal) : fromString (Crystals.toString c) = some c := by
  cases c <;> decide

/-- only a crystal's own identifier parses to it -/
theorem fromString_only_id (s : String) (c : Crystal) (h : fromString s = some c) :
    s = Crystals.toString c := by
  unfold fromString at h
  split at h <;> first | (injection h with h; subst h; rfl) | (exact absurd h (by simp))

/-- every crystal's metadata is listed, and its printed form is the listed identifier -/
theorem allMeta_complete (c : Crystal) :
    getMeta (α := ℝ) c ∈ allMeta (α := ℝ) ∧ (getMeta (α := ℝ) c).id = Crystals.toString c :=
  ⟨List.mem_map_of_mem (Crystal.mem_all c), by cases c <;> rfl⟩

/-- every listed metadata record is found again through its identifier (`test_crystal_ids` for all
crystals) -/
theorem meta_fromString :
    ∀ m ∈ allMeta (α := ℝ), ∃ c, fromString m.id = some c ∧ getMeta c = m := by
  intro m hm
  obtain ⟨c, -, rfl⟩ := List.mem_map.1 hm
  exact ⟨c, by rw [(allMeta_complete c).2, fromString_toString], rfl⟩

/-- T6. The temperature flag is set exactly for the crystals with a linear thermo-optic term and for
LiNb_MgO (whose law is inside the Sellmeier equation). -/
theorem tempKnown_iff (c : Crystal) :
    tempKnown c = true ↔ (dn (α := ℝ) c).isSome = true ∨ c = .LiNb_MgO := by
  cases c <;> simp [tempKnown, dn]

/-- crystals declared temperature-independent return identical indices at every temperature -/
theorem temperature_independent (c : Crystal) (h : tempKnown c = false) (lam T T' : ℝ) :
    indices c lam T = indices c lam T' := by
  cases c <;> simp [tempKnown] at h <;> rfl

/-- the others (except LiNb_MgO) change linearly with temperature about 20 °C -/
theorem temperature_linear (c : Crystal) (d : Vec3 ℝ) (h : dn c = some d) (lam T : ℝ) :
    (indices c lam T).x = (indices c lam Tref).x + (T - Tref) * d.x ∧
    (indices c lam T).y = (indices c lam Tref).y + (T - Tref) * d.y ∧
    (indices c lam T).z = (indices c lam Tref).z + (T - Tref) * d.z := by
  have hc : c ≠ .LiNb_MgO := by rintro rfl; cases h
  simp [indices_eq, nSq_temp hc _ T Tref, slope, h, comp, tempOffset_eq]

/-- … and coincide with the plain Sellmeier value at the reference temperature -/
theorem temperature_reference (c : Crystal) (d : Vec3 ℝ) (h : dn c = some d) (lam : ℝ) :
    indices c lam Tref =
      ⟨Real.sqrt (nSq c (microns lam) Tref).x, Real.sqrt (nSq c (microns lam) Tref).y,
       Real.sqrt (nSq c (microns lam) Tref).z⟩ := by
  simp only [indices_eq, tempOffset_eq, sub_self, zero_mul, add_zero]

/-- non-vacuity of the hypotheses of the temperature theorems -/
example : tempKnown Crystal.KDP_1 = false := rfl
example : dn (α := ℝ) Crystal.BBO_1 = some ⟨-9.3e-6, -9.3e-6, -16.6e-6⟩ := rfl
example : (indices Crystal.KDP_1 (1064e-9 : ℝ) 0 = indices Crystal.KDP_1 (1064e-9 : ℝ) 400) :=
  temperature_independent .KDP_1 rfl _ _ _

/-- LiNb_MgO follows the published law: temperature enters only through
`F = (T_c − 24.5)(T_c + 570.82)` inside the Sellmeier equation … -/
theorem temperature_law_mgo (lam T : ℝ) :
    gayerF T = (T - 273.15 - 24.5) * (T - 273.15 + 570.82) ∧
    indices .LiNb_MgO lam T =
      ⟨Real.sqrt (mgoNoSq (gayerF T) (microns lam)), Real.sqrt (mgoNoSq (gayerF T) (microns lam)),
       Real.sqrt (mgoNeSq (gayerF T) (microns lam))⟩ := by
  refine ⟨?_, rfl⟩
  simp only [gayerF, celsius, lit_two]; ring

/-- … and at the reference temperature 24.5 °C (`F = 0`) it is the reference Sellmeier equation -/
theorem temperature_reference_mgo (l : ℝ) :
    gayerF TrefMgO = 0 ∧
    mgoNoSq 0 l = 5.653 + 0.1185 / (l * l - 0.2091 ^ 2) + 89.61 / (l * l - 10.85 ^ 2) - 1.97e-2 * (l * l) ∧
    mgoNeSq 0 l = 5.756 + 0.0983 / (l * l - 0.2020 ^ 2) + 189.32 / (l * l - 12.52 ^ 2) - 1.32e-2 * (l * l) := by
  refine ⟨?_, ?_, ?_⟩
  · simp only [gayerF, celsius, TrefMgO]; norm_num
  · simp only [mgoNoSq, sellG, sqr, mul_zero, add_zero, sq]
  · simp only [mgoNeSq, sellG, sqr, mul_zero, add_zero, sq]

end Spdc.Props.C01
