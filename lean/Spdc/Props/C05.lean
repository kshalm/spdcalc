import Spdc.Real.PlaneWave
/-!
# C05 — plane-wave limit of the coincidence phase-matching integral

All statements are about the executable model of `get_pm_integrand` (`Spdc/Model/PM.lean`) at
`α := ℝ`, for every dispersion law (`Beam.n`, `Setup.nP` arbitrary functions: "every crystal and
phase-matching type"), every length and every poling term `k_eff`.  `pmIdeal` is the integrand with
the diffraction terms (imaginary parts of `A1 … A4`, `A8`, `A9`) removed.

Notation: `Ws² = wx·wy` of the signal (`Beam.w2`), `Σ = Wp²Ws² + Wp²Wi² + Ws²Wi²`
(`Setup.sigmaX/Y` with the pump's x / y waist), `n = ½·L·tan ρ` (`Setup.nn`),
`x′² = n²(Ws²+Wi²)/Σ` (`Setup.xp2`), `φ₀ = ks_f·z0s + ki_f·z0i` (`Setup.phi0`).
-/
namespace Spdc.Props.C05
open Spdc Spdc.PM

/-- T1. Collinear beams: without diffraction `denom1 = Σx/4`, `denom2 = Σy/4`; for a circular pump
the prefactor `1/sqrt(denom1·denom2)` is `4/Σ`. -/
theorem denoms_ideal (S : Setup ℝ) (h : S.Collinear) (ωs ωi z : ℝ) :
    (coef S ωs ωi z).ideal.denom1.toC = ((S.sigmaX / 4 : ℝ) : ℂ)
    ∧ (coef S ωs ωi z).ideal.denom2.toC = ((S.sigmaY / 4 : ℝ) : ℂ)
    ∧ (S.wpx = S.wpy → 0 ≤ S.sigmaY →
        (((coef S ωs ωi z).ideal.denom1 * (coef S ωs ωi z).ideal.denom2).sqrt).toC
          = ((S.sigmaY / 4 : ℝ) : ℂ)) := by
  have hd1 : (coef S ωs ωi z).ideal.denom1.toC = ((S.sigmaX / 4 : ℝ) : ℂ) := by
    rw [denom1_toC, ideal_coef_collinear S h]
    simp only [Cx.toC_ofReal, Setup.sigmaX]; push_cast; ring
  have hd2 : (coef S ωs ωi z).ideal.denom2.toC = ((S.sigmaY / 4 : ℝ) : ℂ) := by
    rw [denom2_toC, ideal_coef_collinear S h]
    simp only [Cx.toC_ofReal, Setup.sigmaY]; push_cast; ring
  refine ⟨hd1, hd2, fun hc hpos => ?_⟩
  have hxy : S.sigmaX = S.sigmaY := by simp only [Setup.sigmaX, Setup.sigmaY, hc]
  -- the product is the real number `(Σ/4)²`, whose principal root is `Σ/4`
  rw [Cx.sqrt_of_toC_real _ (S.sigmaY / 4 * (S.sigmaY / 4)) (mul_self_nonneg _)
      (by rw [Cx.toC_mul, hd1, hd2, hxy]; push_cast; ring),
    Real.sqrt_mul_self (by positivity)]

/-- T2. Collinear beams: without diffraction the exponent is
`i(ee + ff·z) + i·φ₀ − x′²(1+z)²`. -/
theorem exponent_ideal (S : Setup ℝ) (h : S.Collinear) (ωs ωi z : ℝ)
    (ha : S.wpy * S.wpy + S.sig.w2 ≠ 0) (hS : S.sigmaY ≠ 0) :
    (coef S ωs ωi z).ideal.exponent.toC
      = ((S.phi0 ωs ωi + (pre S ωs ωi).ee + (pre S ωs ωi).ff * z : ℝ) : ℂ) * Complex.I
        - ((S.xp2 * (1 + z) ^ 2 : ℝ) : ℂ) := by
  rw [exponent_toC, ideal_coef_collinear S h]
  simp only [Cx.toC_ofReal, Cx.toC_ofImag]
  rw [expo_collinear ha hS]
  simp only [Setup.xp2, Setup.sigmaY]
  push_cast
  ring

/-- T3. `ff = (L/2)·Δk_z` with `Δk_z` the z-component of `delta_k` for a pump at `ω_s + ω_i`
(collinear beams: `cos θ = sign of the direction's z`; this statement, unlike `sinc_limit` below
which takes both signs `+1`, covers counter-propagation; the poling term `k_eff` enters with the sign it
has in `delta_k`). -/
theorem ff_is_dkz (S : Setup ℝ) (ωs ωi : ℝ)
    (hs : Real.cos S.sig.theta = S.sig.sgn) (hi : Real.cos S.idl.theta = S.idl.sgn) :
    (pre S ωs ωi).ff = halfDkzL S ωs ωi := by
  simp only [pre, chain, halfDkzL, deltaKz, Transc.cos, hs, hi, lit_half]
  ring

/-- the closed form of the diffraction-free integrand (T1 and T2 combined):
`pmIdeal = w(z)·(4/Σ)·exp(i(φ₀ + ee + ff·z) − x′²(1+z)²)` -/
theorem pmIdeal_closed_form (S : Setup ℝ) (h : S.Collinear) (ωs ωi z : ℝ) (hc : S.wpx = S.wpy)
    (ha : S.wpy * S.wpy + S.sig.w2 ≠ 0) (hpos : 0 < S.sigmaY) :
    (pmIdeal S ωs ωi z).toC
      = ((S.apod z : ℝ) : ℂ) * Complex.exp
          (((S.phi0 ωs ωi + (pre S ωs ωi).ee + (pre S ωs ωi).ff * z : ℝ) : ℂ) * Complex.I
            - ((S.xp2 * (1 + z) ^ 2 : ℝ) : ℂ)) / ((S.sigmaY / 4 : ℝ) : ℂ) := by
  unfold pmIdeal Coef.integrand
  rw [Cx.toC_div, Cx.toC_smul, Cx.toC_exp, exponent_ideal S h ωs ωi z ha hpos.ne',
    (denoms_ideal S h ωs ωi z).2.2 hc hpos.le]

/-- T4/T5, general form. For collinear beams, a circular pump and no apodisation the modulus of the
diffraction-free `phasematch_fiber_coupling`, `|½∫_{-1}^{1} pmIdeal dz|`, is `4/Σ` times that of
`½∫_{-1}^{1} e^{i·ff·z}·e^{−x′²(1+z)²} dz`: the phase-mismatch oscillation (`ff = Δk_z·L/2` by T3) damped
by the pump walk-off Gaussian.  T4 is the case `x′ = 0`, T5 the case `ff = 0`. -/
theorem planeWave_integral (S : Setup ℝ) (h : S.PlaneWave) (ωs ωi : ℝ) :
    ‖(1 / 2 : ℂ) * ∫ z in (-1:ℝ)..1, (pmIdeal S ωs ωi z).toC‖
      = 4 / S.sigmaY * ‖(1 / 2 : ℂ) * ∫ z in (-1:ℝ)..1,
          Complex.exp (Complex.I * ((pre S ωs ωi).ff : ℝ) * z) * ((Real.exp (-(S.xp2 * (1 + z) ^ 2)) : ℝ) : ℂ)‖ := by
  have hpos := h.sigma_pos
  have hne : ((S.sigmaY : ℝ) : ℂ) ≠ 0 := by exact_mod_cast hpos.ne'
  -- the z-independent factor `(4/Σ)·e^{i(φ₀+ee)}` leaves the integral; its modulus is `4/Σ`
  have hform : ∀ z : ℝ, (pmIdeal S ωs ωi z).toC
      = (((4 / S.sigmaY : ℝ) : ℂ) * Complex.exp (((S.phi0 ωs ωi + (pre S ωs ωi).ee : ℝ) : ℂ) * Complex.I))
          * (Complex.exp (Complex.I * ((pre S ωs ωi).ff : ℝ) * z)
              * ((Real.exp (-(S.xp2 * (1 + z) ^ 2)) : ℝ) : ℂ)) := by
    intro z
    rw [pmIdeal_closed_form S h.col ωs ωi z h.circ h.a_ne hpos, h.apod z, Complex.ofReal_exp,
      mul_assoc, ← Complex.exp_add, ← Complex.exp_add]
    push_cast
    field_simp
    congr 1
    ring
  simp_rw [hform]
  rw [intervalIntegral.integral_const_mul, mul_left_comm, norm_mul, norm_mul,
    Complex.norm_exp_ofReal_mul_I, mul_one, Complex.norm_real, Real.norm_eq_abs,
    abs_of_pos (by positivity)]

/-- T4. Without walk-off (`ρ = 0`), for co-propagating collinear beams, a circular pump and no
apodisation: `|½∫_{-1}^{1} pmIdeal dz| = (4/Σ)·|sinc(Δk_z·L/2)|`, `Δk_z` for a pump at `ω_s + ω_i`. -/
theorem sinc_limit (S : Setup ℝ) (h : S.PlaneWave) (hρ : S.rho = 0) (ωs ωi : ℝ)
    (hs : S.sig.sgn = 1) (hi : S.idl.sgn = 1) :
    ‖(1 / 2 : ℂ) * ∫ z in (-1:ℝ)..1, (pmIdeal S ωs ωi z).toC‖
      = 4 / S.sigmaY * |Real.sinc (halfDkzL S ωs ωi)| := by
  rw [planeWave_integral S h, xp2_zero_of_rho S hρ]
  simp only [zero_mul, neg_zero, Real.exp_zero, Complex.ofReal_one, mul_one]
  rw [half_integral_exp, ff_is_dkz S ωs ωi]
  · rw [h.col.sig.theta, Real.cos_zero, hs]
  · rw [h.col.idl.theta, Real.cos_zero, hi]

/-- T5. At perfect phase matching (`ff = 0`) with pump walk-off the value is
`(4/Σ)·½∫_{-1}^{1} e^{−x′²(1+z)²} dz = (4/Σ)·(1/x)∫₀ˣ e^{−u²} du` with `x = 2x′`; the identification
of `(1/x)∫₀ˣ e^{−u²} du` with `√π·erf(x)/(2x)` is the definition of `erf` (Mathlib has none), hence
`_partial`. -/
theorem peak_partial (S : Setup ℝ) (h : S.PlaneWave) (ωs ωi : ℝ) (hff : (pre S ωs ωi).ff = 0) :
    ‖(1 / 2 : ℂ) * ∫ z in (-1:ℝ)..1, (pmIdeal S ωs ωi z).toC‖
        = 4 / S.sigmaY * (1 / 2 * ∫ z in (-1:ℝ)..1, Real.exp (-(S.xp2 * (1 + z) ^ 2)))
    ∧ ∀ xp : ℝ, xp ≠ 0 → xp ^ 2 = S.xp2 →
        ‖(1 / 2 : ℂ) * ∫ z in (-1:ℝ)..1, (pmIdeal S ωs ωi z).toC‖
          = 4 / S.sigmaY * (1 / (2 * xp) * ∫ u in (0:ℝ)..(2 * xp), Real.exp (-(u ^ 2))) := by
  have hI : 0 ≤ ∫ z in (-1:ℝ)..1, Real.exp (-(S.xp2 * (1 + z) ^ 2)) :=
    intervalIntegral.integral_nonneg (by norm_num) fun z _ => (Real.exp_pos _).le
  have hpeak : ‖(1 / 2 : ℂ) * ∫ z in (-1:ℝ)..1, (pmIdeal S ωs ωi z).toC‖
      = 4 / S.sigmaY * (1 / 2 * ∫ z in (-1:ℝ)..1, Real.exp (-(S.xp2 * (1 + z) ^ 2))) := by
    rw [planeWave_integral S h, hff]
    simp only [Complex.ofReal_zero, mul_zero, zero_mul, Complex.exp_zero, one_mul]
    rw [intervalIntegral.integral_ofReal, norm_mul, Complex.norm_real, Real.norm_eq_abs, abs_of_nonneg hI]
    norm_num
  exact ⟨hpeak, fun xp hx hxp => by rw [hpeak, ← hxp, walkoff_integral xp hx]⟩

/-- the walk-off parameter: `x′² = (½·L·tan ρ)²·(Ws²+Wi²)/Σ`, i.e. the statement's
`x = 2x′ = L·|tan ρ|·√((Ws²+Wi²)/Σ)` -/
theorem walkoff_parameter (S : Setup ℝ) :
    S.xp2 = (1 / 2 * S.L * Real.tan S.rho) ^ 2 * (S.sig.w2 + S.idl.w2) / S.sigmaY
    ∧ (S.rho = 0 → S.xp2 = 0) :=
  ⟨rfl, xp2_zero_of_rho S⟩

/-- a collinear plane-wave setup with unequal waists exists -/
example : ∃ S : Setup ℝ, S.PlaneWave ∧ S.rho = 0 ∧ S.sig.sgn = 1 ∧ S.idl.sgn = 1
    ∧ S.sig.w2 ≠ S.idl.w2 := by
  refine ⟨⟨1, ⟨0, 0, 0, 2, 2, 0, 1, fun _ => 1, 1, .o⟩, ⟨0, 0, 0, 3, 3, 0, 1, fun _ => 1, 1, .o⟩, 5, 5,
    fun _ => 1, 0, 0, fun _ => 1, .t0_o_oo⟩, ?_, rfl, rfl, rfl, ?_⟩
  · exact ⟨⟨⟨rfl, rfl⟩, ⟨rfl, rfl⟩⟩, rfl, by norm_num, by norm_num [Beam.w2], by norm_num [Beam.w2],
      fun _ => rfl⟩
  · norm_num [Beam.w2]

end Spdc.Props.C05
