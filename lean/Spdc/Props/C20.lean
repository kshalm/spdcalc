import Spdc.Real.Optimum
import Spdc.Real.ComposeAutoLemmas
import Spdc.Real.ComposeGridLemmas
/-!
# C20 — normalised spectra are relative to the optimised setup; optimising is idempotent

`Ext` bundles the numeric routines `try_as_optimum` calls, `SpecExt` the raw spectra and normalisations
of the layer below; both are arbitrary (deterministic) functions here.
-/
namespace Spdc.Props.C20
open Spdc Spdc.Optimum

section idem
variable {α A : Type} [Neg α] [OfScientific α] [LT α] [DecidableLT α]

/-- **T1.** Optimising an optimised setup changes nothing — for *any* scalar type (so also for `Float`)
and any deterministic sub-routines.  On the second pass every sub-routine receives the arguments of
the first pass (`set_angles`, `optimum_poling_period`, `try_new_optimum`, `optimal_waist_position`),
except `optimum_theta`, whose crystal argument now carries the optimum angle instead of the original
one: `hθ` says the routine does not read it (it overwrites `crystal_setup.theta` before every use and
the external angle of a collinear signal is `asin(n·sin 0) = 0` for every crystal angle).
`hcp` (counter-propagation only): the two reset angles 0° and 180° are normalised to values on the
correct sides of 90°. -/
theorem optimum_idem (ext : Ext α A) (s o : Setup α A)
    (h : tryAsOptimum ext s = .ok o)
    (hθ : ∀ θ, ext.optimumTheta { o.cs with theta := θ } o.signal o.pump =
               ext.optimumTheta o.cs o.signal o.pump)
    (hcp : s.cs.counterProp = true →
      (ext.setAngles (ext.deg (0.0 : α)) (ext.deg (0.0 : α))).2.1 < ext.deg (90.0 : α) ∧
      ¬ (ext.setAngles (ext.deg (0.0 : α)) (ext.deg (180.0 : α))).2.1 < ext.deg (90.0 : α)) :
    tryAsOptimum ext o = .ok o := by
  cases hpp : s.pp with
  | off =>
    rw [tryAsOptimum_off ext s hpp] at h
    obtain ⟨θ, hth, hfin⟩ := Outcome.bind_eq_ok.mp h
    obtain ⟨hsig, hcs, hpp', hpump⟩ := finishOptimum_stores hfin
    have hθ' : ext.optimumTheta o.cs o.signal o.pump = .ok θ := by
      rw [← hθ s.cs.theta, hsig, hpump, hcs]; exact hth
    rw [tryAsOptimum_off ext o hpp', resetSignal_idem ext s o hsig (by rw [hcs]) hcp, hθ']
    show finishOptimum ext o o.signal { o.cs with theta := θ } .off = .ok o
    rw [hsig, hcs]
    exact finishOptimum_idem hfin
  | on p0 n0 apod =>
    rw [tryAsOptimum_on ext s hpp] at h
    obtain ⟨p, hper, hfin⟩ := Outcome.bind_eq_ok.mp h
    obtain ⟨hsig, hcs, hpp', hpump⟩ := finishOptimum_stores hfin
    obtain ⟨q, n, hnew⟩ := PP.new_apod (α := α) p apod
    rw [tryAsOptimum_on ext o (hpp'.trans hnew),
      resetSignal_idem ext s o hsig (by rw [hcs]) hcp, hsig, hpump, hcs, hper]
    exact finishOptimum_idem hfin

/-- **T1, forward propagation** (the case of the statement): no hypothesis on the angles is needed. -/
theorem optimum_idem_forward (ext : Ext α A) (s o : Setup α A)
    (h : tryAsOptimum ext s = .ok o) (hfw : s.cs.counterProp = false)
    (hθ : ∀ θ, ext.optimumTheta { o.cs with theta := θ } o.signal o.pump =
               ext.optimumTheta o.cs o.signal o.pump) :
    tryAsOptimum ext o = .ok o :=
  optimum_idem ext s o h hθ (fun hc => by rw [hfw] at hc; exact absurd hc (by decide))

end idem

/-! ## composed model

`Compose.asOptimum` (`Spdc/Model/ComposeAuto.lean`) is `try_as_optimum` on primitive setups with every
routine computed by the composed model (Nelder–Mead over the composed `|Δk_z|`, optimum idler, optimal
waist positions); for it the hypothesis `hθ` of `optimum_idem` is a theorem. -/

/-- composed model, T1 with concrete routines and `hθ` discharged (forward propagation): optimising
an optimised primitive setup changes nothing.  No hypothesis besides `counter_propagation = false`. -/
theorem compose_optimum_idem (S o : Compose.Setup ℝ) (h : Compose.asOptimum S = .ok o)
    (hfw : S.counterProp = false) : Compose.asOptimum o = .ok o :=
  Compose.asOptimum_idem S o h hfw

/-- composed model: the discharged hypothesis itself — for a collinear signal the composed
`optimum_theta` does not depend on the crystal angle stored in the setup -/
theorem compose_optimum_theta_ignores_angle (S : Compose.Setup ℝ) (θ : ℝ) (s p : Beam.Beam ℝ)
    (hs : s.theta = 0) :
    Compose.optimumThetaB { S with cTheta := θ } s p = Compose.optimumThetaB S s p :=
  Compose.optimumThetaB_collinear (T := { S with cTheta := θ }) (U := S) ⟨rfl, rfl, rfl, rfl, rfl, rfl⟩ s p hs

section real
variable {A I : Type}

/-- **T1 (support).** The repair of `try_as_optimum` (the optimum idler is computed with the *new* poling
instead of the one passed in) cannot change any result when `sin θ_signal = 0`: the internal angle of
the optimum idler is `asin(n_s·sin θ_s / √…)·sign`, which does not see the poling at all then.  In ℝ this
covers the backward signal (θ = π) too; in `f64`, `sin π ≠ 0`, which is why the pinned code was not
idempotent for counter-propagation (measured by the correspondence, op `idler_opt`). -/
theorem idler_indep_of_poling (ix : IdlerExt ℝ) (signal pump : Beam ℝ) (cs : Crystal ℝ)
    (pp pp' : PP ℝ A) (h : Real.sin signal.theta = 0) :
    idlerOptimum ix signal pump cs pp = idlerOptimum ix signal pump cs pp' := by
  unfold idlerOptimum idlerTheta
  simp only [Transc.sin, h, mul_zero, zero_div]

/-- **T2 (definitions).** Every normalised accessor is the raw accessor divided by the reference taken at
the centre of the *optimised clone* `o` (not of the setup itself), the spectrum keeps the setup it was
given, and the idler variants are the same statements about the swapped setup. -/
theorem normalized_def (ext : Ext ℝ A) (sx : SpecExt ℝ A I) (s o : Setup ℝ A) (integ : I)
    (hopt : tryAsOptimum ext s = .ok o) :
    ∃ js, JointSpectrum.new ext sx s integ = .ok js ∧ js.spdc = s ∧
      js.jsaCenter = refAmplitude sx o integ ∧ js.jsiSinglesCenter = refSingles sx o integ ∧
      ∀ ws wi,
        (js.jsaNormalized sx ws wi).toC = (js.jsa sx ws wi).toC / ((refAmplitude sx o integ : ℝ) : ℂ) ∧
        js.jsiNormalized sx ws wi = js.jsi sx ws wi / (refAmplitude sx o integ) ^ 2 ∧
        js.jsiSinglesNormalized sx ws wi = js.jsiSingles sx ws wi / refSingles sx o integ := by
  refine ⟨_, JointSpectrum.new_eq_ok sx integ hopt, rfl, rfl, rfl, fun ws wi => ⟨?_, ?_, rfl⟩⟩
  · simp [JointSpectrum.jsaNormalized]
  · simp [JointSpectrum.jsiNormalized, pow_two]

/-- **T2 (reference = raw value at the optimum's centre).** For an optimised setup `o`
(`try_as_optimum o = o`) with non-negative coincidence normalisation at its centre, the references are
the unnormalised values of `o`'s own spectrum at `o`'s central frequencies: `|jsa|`, `jsi = ref²`,
`jsi_singles`. -/
theorem reference_is_value_at_centre (ext : Ext ℝ A) (sx : SpecExt ℝ A I) (o : Setup ℝ A) (integ : I)
    (hfix : tryAsOptimum ext o = .ok o)
    (hn : 0 ≤ sx.jsiNorm o.signal.freq o.idler.freq o) :
    ∃ jo, JointSpectrum.new ext sx o integ = .ok jo ∧
      refAmplitude sx o integ = ‖(jo.jsa sx o.signal.freq o.idler.freq).toC‖ ∧
      (refAmplitude sx o integ) ^ 2 = jo.jsi sx o.signal.freq o.idler.freq ∧
      refSingles sx o integ = jo.jsiSingles sx o.signal.freq o.idler.freq :=
  ⟨_, JointSpectrum.new_eq_ok sx integ hfix, refAmplitude_eq_norm_jsa sx ⟨o, integ, _, _⟩,
    refAmplitude_sq_eq_jsi sx ⟨o, integ, _, _⟩ hn, refSingles_eq_jsiSingles sx ⟨o, integ, _, _⟩⟩

/-- **T2 (intensity = |amplitude|²).** Everywhere, provided the coincidence normalisation is
non-negative at that pair (it is a product of squares and positive constants; a negative value would
make the code's `sqrt` NaN). -/
theorem jsi_normalized_eq_normSq (sx : SpecExt ℝ A I) (js : JointSpectrum ℝ A I) (ws wi : ℝ)
    (hn : 0 ≤ sx.jsiNorm ws wi js.spdc) :
    js.jsiNormalized sx ws wi = Complex.normSq (js.jsaNormalized sx ws wi).toC := by
  unfold JointSpectrum.jsiNormalized JointSpectrum.jsaNormalized
  rw [Cx.toC_divs, jsa_toC, jsi_eq, map_div₀, map_mul, Complex.normSq_ofReal, Complex.normSq_ofReal,
    Real.mul_self_sqrt hn]

/-- **T3.** An optimised setup is its own reference: at its centre the normalised coincidence intensity
is 1 and the normalised amplitude has modulus 1 (needs a non-zero raw amplitude and a positive
normalisation there, otherwise the code divides 0 by 0). -/
theorem centre_is_one (ext : Ext ℝ A) (sx : SpecExt ℝ A I) (o : Setup ℝ A) (integ : I)
    (hfix : tryAsOptimum ext o = .ok o)
    (ha : (sx.jsaRaw o.signal.freq o.idler.freq o integ).toC ≠ 0)
    (hn : 0 < sx.jsiNorm o.signal.freq o.idler.freq o) :
    ∃ jo, JointSpectrum.new ext sx o integ = .ok jo ∧
      jo.jsiNormalized sx o.signal.freq o.idler.freq = 1 ∧
      ‖(jo.jsaNormalized sx o.signal.freq o.idler.freq).toC‖ = 1 := by
  have hpos : 0 < refAmplitude sx o integ := refAmplitude_pos sx o integ ha hn
  refine ⟨_, JointSpectrum.new_eq_ok sx integ hfix, ?_, ?_⟩
  · unfold JointSpectrum.jsiNormalized
    rw [← refAmplitude_sq_eq_jsi sx ⟨o, integ, _, _⟩ hn.le, pow_two]
    exact div_self (mul_pos hpos hpos).ne'
  · unfold JointSpectrum.jsaNormalized
    rw [Cx.toC_divs, norm_div, Complex.norm_real, Real.norm_of_nonneg hpos.le,
      ← refAmplitude_eq_norm_jsa sx ⟨o, integ, _, _⟩]
    exact div_self hpos.ne'

/-- **T1 + T3.** What `try_as_optimum` returns is such a fixed point, hence has centre value 1. -/
theorem optimised_centre_is_one (ext : Ext ℝ A) (sx : SpecExt ℝ A I) (s o : Setup ℝ A) (integ : I)
    (h : tryAsOptimum ext s = .ok o) (hfw : s.cs.counterProp = false)
    (hθ : ∀ θ, ext.optimumTheta { o.cs with theta := θ } o.signal o.pump =
               ext.optimumTheta o.cs o.signal o.pump)
    (ha : (sx.jsaRaw o.signal.freq o.idler.freq o integ).toC ≠ 0)
    (hn : 0 < sx.jsiNorm o.signal.freq o.idler.freq o) :
    ∃ jo, JointSpectrum.new ext sx o integ = .ok jo ∧
      jo.jsiNormalized sx o.signal.freq o.idler.freq = 1 ∧
      ‖(jo.jsaNormalized sx o.signal.freq o.idler.freq).toC‖ = 1 :=
  centre_is_one ext sx o integ (optimum_idem_forward ext s o h hfw hθ) ha hn

/-- **T4.** The normalised sweep is the raw sweep divided, element by element, by one reference taken at
the centre of the *base* setup's optimum; that reference is the square of the spectrum reference. -/
theorem sweep_normalized (ext : Ext ℝ A) (sx : SpecExt ℝ A I) (integ : I) (base o : Setup ℝ A)
    (l : List (Setup ℝ A)) (hopt : tryAsOptimum ext base = .ok o) :
    jsiValuesNormalized sx ext integ base l =
      .ok ((jsiValues sx integ l).map (· / sweepRef sx integ o)) ∧
    (0 ≤ sx.jsiNorm o.signal.freq o.idler.freq o → sweepRef sx integ o = (refAmplitude sx o integ) ^ 2) := by
  constructor
  · unfold jsiValuesNormalized jsiValues
    rw [hopt, List.map_map]
    exact congrArg _ (List.map_congr_left fun st _ => jsiValueNormalized_eq sx integ _ st)
  · exact sweepRef_eq_sq sx integ o

end real

section witness

def beam0 (f : ℝ) : Beam ℝ := ⟨1, 1, f, .o, 0, 0, ⟨0, 0, 1⟩⟩

/-- sub-routines of a toy world: the optimum idler always has frequency 2, and the optimal waist
position of a beam is (say) its frequency -/
def ext0 : Ext ℝ Unit where
  deg := fun x => x
  setAngles := fun _ _ => (0, 0, ⟨0, 0, 1⟩)
  optimumTheta := fun _ _ _ => .ok 0
  optimumPolingPeriod := fun _ _ _ => .ok 1
  optimumIdler := fun _ _ _ _ => .ok (beam0 2)
  optimalWaistPosition := fun _ f _ => f

/-- a setup whose idler (frequency 1) is not the optimum idler (frequency 2) -/
def s0 : Setup ℝ Unit :=
  ⟨beam0 3, beam0 1, beam0 5, ⟨0, 0, 0, 0, 1, 0, false⟩, .off, 1, 1, 1, 0, 0, 1⟩

/-- **The defect repaired by `fix: try_as_optimum is idempotent`.**  The pinned tree computed the idler
waist position from the idler that was passed in: on this input the first optimisation stores
`zi = 1` (old idler), the second `zi = 2` (new idler), so optimising twice ≠ optimising once. -/
theorem pinned_not_idempotent :
    ∃ o, tryAsOptimumPinned ext0 s0 = .ok o ∧ tryAsOptimumPinned ext0 o ≠ .ok o := by
  refine ⟨_, rfl, fun h => ?_⟩
  have hz : (2 : ℝ) = 1 := congrArg Setup.zi (Outcome.ok.inj h)
  norm_num at hz

/-- non-vacuity of T1: the repaired wiring is idempotent on the same input, through the theorem -/
example : ∃ o, tryAsOptimum ext0 s0 = .ok o ∧ tryAsOptimum ext0 o = .ok o :=
  ⟨_, rfl, optimum_idem_forward ext0 s0 _ rfl rfl (fun _ => rfl)⟩

def sx0 : SpecExt ℝ Unit Unit where
  jsaRaw := fun _ _ _ _ => ⟨0, 1⟩
  jsiSinglesRaw := fun _ _ _ _ => 1
  jsiNorm := fun _ _ _ => 4
  jsiSinglesNorm := fun _ _ _ => 3
  swap := fun s => s

/-- non-vacuity of T2: the spectrum object exists, through `normalized_def` -/
example : ∃ jo, JointSpectrum.new ext0 sx0 (s0 : Setup ℝ Unit) () = .ok jo :=
  (normalized_def ext0 sx0 s0 _ () rfl).imp fun _ h => h.1

/-- non-vacuity of T3 / T1+T3 (hypotheses: fixed point, non-zero amplitude, positive normalisation) -/
example (o : Setup ℝ Unit) (h : tryAsOptimum ext0 s0 = .ok o) :
    ∃ jo, JointSpectrum.new ext0 sx0 o () = .ok jo ∧
      jo.jsiNormalized sx0 o.signal.freq o.idler.freq = 1 ∧
      ‖(jo.jsaNormalized sx0 o.signal.freq o.idler.freq).toC‖ = 1 :=
  optimised_centre_is_one ext0 sx0 s0 o () h rfl (fun _ => rfl)
    (by simp [sx0, Cx.toC, Complex.ext_iff]) (by simp [sx0])

end witness

/-! ## composed model (grid level)

The theorems of T2–T4 above are about an abstract layer below (`SpecExt`).  Below the clause "the
normalised spectrum of an optimum setup at its own centre equals 1" is proved for the COMPOSED model
(`Spdc/Model/ComposeGrid.lean`): `jointSpectrum` is `JointSpectrum::new` on a primitive setup, its centre
value is `√norm · |jsa_raw|` of the composed `try_as_optimum` at the optimum's own centre frequencies
(computed through every layer, Simpson quadrature), and `jsiNormalized` divides the composed `jsi` by
its square. -/

/-- composed model, T3 lifted: if `o` is an optimum primitive setup (a fixed point of the composed
`try_as_optimum`, e.g. any result of it under forward propagation — `compose_optimum_idem`) whose
centre value is non-zero, then the composed `jsi_normalized` of `o` at its own centre frequencies is
exactly `1`. -/
theorem compose_centre_is_one (o : Compose.Setup ℝ) (divs : Nat) (js : Compose.JS ℝ)
    (hjs : Compose.jointSpectrum o divs = .ok js) (hfix : Compose.asOptimum o = .ok o)
    (hc : js.jsaCenter ≠ 0) :
    ∃ i, Compose.idlerBeam o = .ok i ∧
      js.jsiNormalized (Compose.signalBeam o).frequency i.frequency = .ok 1 := by
  obtain ⟨rfl, rfl, o', ho', hcv⟩ := Compose.jointSpectrum_ok hjs
  obtain rfl : js.S = o' := Outcome.ok.inj (hfix.symm.trans ho')
  obtain ⟨i, n, r, hi, hn, hr, hcen⟩ := Compose.centreValues_ok hcv
  simp only at hcen
  rw [hcen] at hc
  refine ⟨i, hi, ?_⟩
  have hnpos : 0 < n := Real.sqrt_ne_zero'.mp (left_ne_zero_of_mul hc)
  have hr0 : r ≠ Cx.zero := by
    rintro rfl
    exact right_ne_zero_of_mul hc (by simp [Cx.abs_eq])
  obtain ⟨J, q, hJ, hq, rfl⟩ := Compose.jsaRaw_ne_zero hr hr0
  rw [Compose.jsiNormalizationC_eq hJ] at hn
  -- over ℝ `jsi = n·|r|²` whatever the zero test says, and the centre value squared is the same
  rw [Compose.JS.jsiNormalized, Compose.JS.jsi_total hJ hq, Outcome.map_ok, PM.jsi, PM.jsiOfRaw_eq,
    Outcome.ok.inj hn, hcen, Cx.sqrt_mul_abs_mul_self hnpos.le, div_self]
  rw [← Cx.sqrt_mul_abs_mul_self hnpos.le]
  exact mul_self_ne_zero.mpr hc

/-- non-vacuity of the fixed-point hypothesis at the level it can be shown symbolically: every
result of the composed `try_as_optimum` under forward propagation IS a fixed point -/
example (S o : Compose.Setup ℝ) (h : Compose.asOptimum S = .ok o) (hfw : S.counterProp = false) :
    Compose.asOptimum o = .ok o := compose_optimum_idem S o h hfw

/-- `hjs` and `hfix` hold together for an optimum setup obtained from `Compose.exGrid`; `jsaCenter ≠ 0` is not shown -/
example : ∃ (o : Compose.Setup ℝ) (js : Compose.JS ℝ),
    Compose.asOptimum o = .ok o ∧ Compose.jointSpectrum o 50 = .ok js := Compose.exGrid_optimum_available

end Spdc.Props.C20
