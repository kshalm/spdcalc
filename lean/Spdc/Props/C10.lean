import Spdc.Real.TwoSrcLemmas
import Spdc.Real.SchmidtLemmas
import Spdc.Real.ComposeGridLemmas
/-!
# C10 — two-source HOM visibility equals the heralded-photon purity

Property theorems only; all but the last section (the composed model) are about `Spdc.Hom.twoRate` /
`homTwoSourceSeries` / `twoSourceVisibilities` (eight flat grids, `get_2d_indices` /
`get_1d_index` permutations) at the ℝ instance.  Matrix form: `Fmat f n s i = f[i·n + s]`,
`G = FᴴF`.  Helper lemmas: `Spdc/Real/TwoSrcLemmas.lean`, for the last section
`Spdc/Real/ComposeGridLemmas.lean`.
-/
namespace Spdc.Props.C10
open Spdc Spdc.Grid Spdc.Hom Spdc.HomLemmas Spdc.TwoSrcLemmas Matrix

/-- the `assert!(col < cols)` of `get_1d_index` cannot fail for a column obtained as a remainder,
so the model's plain index formula `idx1` is what the code computes -/
theorem idx1_never_panics (k row cols : Nat) (h : 0 < cols) :
    get1dIndex (k % cols) row cols = .ok (idx1 (k % cols) row cols) := by
  simp [get1dIndex, idx1, Nat.mod_lt _ h]

/-- the model panics exactly when one of the three `assert_eq!` on the step counts fails -/
theorem series_ok_iff (r1 r2 : Steps2D ℝ) (G : TwoSrc ℝ) (τs : List ℝ) :
    (homTwoSourceSeries r1 r2 G τs).isOk = true ↔
      (r1.x.n = r1.y.n ∧ r2.x.n = r2.y.n ∧ r1.x.n = r2.x.n) := by
  unfold homTwoSourceSeries
  split_ifs with h1 h2 h3 <;> simp_all [Outcome.isOk]

/-- T1 (DESIGN §3's `ii_eq_ss` is the second conjunct): two identical sources on one range (the six
signal×idler grids coincide), zero delay: `rate_ss = rate_ii = ½(1 − tr(G²)/tr(G)²)` (both traces of `G = FᴴF` are real; the statement
takes their real parts). -/
theorem ss_trace (n : ℕ) (r1 r2 : Steps2D ℝ) (h1 : r1.len = n * n) (h2 : r2.len = n * n)
    (f P Q : Array (Cx ℝ)) (hf : f.size = n * n) (hN : jsiNorm f ≠ 0) :
    let Gm := (Fmat f n)ᴴ * Fmat f n
    (twoRate n r1 r2 (sixEq f P Q) 0).1 = 1 / 2 * (1 - (Gm * Gm).trace.re / (Gm.trace.re) ^ 2) ∧
      (twoRate n r1 r2 (sixEq f P Q) 0).2.1 = (twoRate n r1 r2 (sixEq f P Q) 0).1 := by
  intro Gm
  have htr : Gm.trace.re = jsiNorm f := by
    simp only [Gm, trace_gram_Fmat hf, Complex.ofReal_re]
  rw [twoRate_eq r1 r2 h1 h2]
  simp only [channel, sixEq, zero_mul, Complex.ofReal_zero, Complex.exp_zero, mul_one]
  refine ⟨?_, congrArg (· / 4 / _) (S4_congr fun i1 s1 i2 s2 => by rw [mul_comm (Fmat f n s1 i2)])⟩
  -- `Σ|a − b|² = Σ|a|² + Σ|b|² − 2 Re Σ a b̄ = 2N² − 2 Re tr(G²)`
  rw [S4_normSq_sub, S4_trace, S4_a_term hf hf, S4_b_ss hf hf, htr]
  field_simp
  ring

/-- T1 (visibilities). `twoSourceVisibilities` for identical sources returns
`V_ss = V_ii = tr(G²)/tr(G)²`. -/
theorem identical_visibilities (n : ℕ) (r : Steps2D ℝ) (hx : r.x.n = n) (hy : r.y.n = n)
    (f P Q : Array (Cx ℝ)) (hf : f.size = n * n) (hN : jsiNorm f ≠ 0) (δ1 δ2 δ3 : ℝ) :
    let Gm := (Fmat f n)ᴴ * Fmat f n
    ∃ vsi, twoSourceVisibilities true r r (sixEq f P Q) δ1 δ2 δ3 =
      .ok ((Gm * Gm).trace.re / (Gm.trace.re) ^ 2, (Gm * Gm).trace.re / (Gm.trace.re) ^ 2, vsi) := by
  intro Gm
  have hlen : r.len = n * n := Steps2D.len_sq hx hy
  have h := ss_trace n r r hlen hlen f P Q hf hN
  simp only at h
  refine ⟨visibilityOf (twoRate n r r (sixEq f P Q) 0).2.2, ?_⟩
  simp only [twoSourceVisibilities, if_true, homTwoSourceSeries, hx, hy, ne_eq, not_true_eq_false,
    if_false, Outcome.map_ok, lit_zero]
  have e : ∀ T N : ℝ, 1 - 2 * (1 / 2 * (1 - T / N ^ 2)) = T / N ^ 2 := by intros; ring
  rw [h.2, h.1, visibilityOf_eq, e]

/-- T2. `purity_eigen`: `tr(G²)/tr(G)² = Σλ²/(Σλ)²` over the (non-negative) eigenvalues `λ = σ²` of
the Hermitian positive semi-definite `G = FᴴF`, i.e. `Σσ⁴/(Σσ²)²` over the singular values of the
complex amplitude matrix. -/
theorem purity_eigen (n : ℕ) (F : Matrix (Fin n) (Fin n) ℂ) :
    let hG := Matrix.isHermitian_conjTranspose_mul_self F
    (∀ i, 0 ≤ hG.eigenvalues i) ∧
      ((Fᴴ * F) * (Fᴴ * F)).trace.re / ((Fᴴ * F).trace.re) ^ 2 =
        (∑ i, (hG.eigenvalues i) ^ 2) / (∑ i, hG.eigenvalues i) ^ 2 := by
  intro hG
  refine ⟨fun i => Matrix.eigenvalues_conjTranspose_mul_self_nonneg F i, ?_⟩
  rw [hG.trace_eq_sum_eigenvalues, SchmidtLemmas.trace_mul_self_eq_sum_sq hG]
  norm_cast

/-- the eight grids the code evaluates for two identical sources on one range: the six signal×idler
grids coincide; the other two live on (idler axis)² and (signal axis)² -/
theorem identical_sources_grids (J : ℝ → ℝ → Cx ℝ) (r : Steps2D ℝ) :
    twoSrcOf J J r r = sixEq (sampled J r) (sampled J ⟨r.y, r.y⟩) (sampled J ⟨r.x, r.x⟩) := rfl

/-- T1+T2 combined: for two identical sources (amplitude function `J`, any square range `r`, non-zero
spectrum) the model of `hom_two_source_visibilities` returns `V_ss = V_ii = Σλ²/(Σλ)² = Σσ⁴/(Σσ²)²`,
`λ = σ²` the eigenvalues of `FᴴF`, `F` the sampled complex amplitude matrix. -/
theorem visibility_eq_purity (J : ℝ → ℝ → Cx ℝ) (n : ℕ) (r : Steps2D ℝ) (hx : r.x.n = n)
    (hy : r.y.n = n) (hN : jsiNorm (sampled J r) ≠ 0) (δ1 δ2 δ3 : ℝ) :
    let hG := Matrix.isHermitian_conjTranspose_mul_self (Fmat (sampled J r) n)
    ∃ vsi, twoSourceVisibilities true r r (twoSrcOf J J r r) δ1 δ2 δ3 =
      .ok ((∑ i, (hG.eigenvalues i) ^ 2) / (∑ i, hG.eigenvalues i) ^ 2,
           (∑ i, (hG.eigenvalues i) ^ 2) / (∑ i, hG.eigenvalues i) ^ 2, vsi) := by
  intro hG
  have hs : (sampled J r).size = n * n := (size_sampled J r).trans (Steps2D.len_sq hx hy)
  obtain ⟨vsi, hv⟩ := identical_visibilities n r hx hy (sampled J r) (sampled J ⟨r.y, r.y⟩)
    (sampled J ⟨r.x, r.x⟩) hs hN δ1 δ2 δ3
  refine ⟨vsi, ?_⟩
  rw [identical_sources_grids, hv, (purity_eigen n (Fmat (sampled J r) n)).2]

/-- T3. `ss_ii_mem_unit`: for identical spectra on identical ranges the signal–signal and
idler–idler rates lie in `[0, 1]` at every delay. -/
theorem ss_ii_mem_unit (n : ℕ) (r1 r2 : Steps2D ℝ) (h1 : r1.len = n * n) (h2 : r2.len = n * n)
    (f P Q : Array (Cx ℝ)) (hf : f.size = n * n) (hP : P.size = n * n) (hQ : Q.size = n * n)
    (hN : 0 < jsiNorm f) (δ : ℝ) :
    (0 ≤ (twoRate n r1 r2 (sixEq f P Q) δ).1 ∧ (twoRate n r1 r2 (sixEq f P Q) δ).1 ≤ 1) ∧
      (0 ≤ (twoRate n r1 r2 (sixEq f P Q) δ).2.1 ∧ (twoRate n r1 r2 (sixEq f P Q) δ).2.1 ≤ 1) := by
  have hNN : 0 < jsiNorm f * jsiNorm f := mul_pos hN hN
  have hA := S4_a_term hf hf
  rw [twoRate_eq r1 r2 h1 h2]
  exact ⟨(S4_channel_bounds hNN hA (S4_b_ss hf hf)).imp_right fun h => h.2 le_rfl,
    (S4_channel_bounds hNN hA (S4_b_ii hf hf)).imp_right fun h => h.2 le_rfl⟩

/-- T4. `si_mem_unit_partial`: for *any* eight grids and every delay the signal–idler rate lies in
`[0, ½(1 + N₁′N₂′/(N₁N₂))]`, where `N₁′`, `N₂′` are the norms of the (idler-axis × idler-axis) grid
of source 1 and the (signal-axis × signal-axis) grid of source 2; hence `≤ 1` under the explicit
hypothesis `N₁′N₂′ ≤ N₁N₂`.  Without it the bound exceeds 1 and so can the rate (finding D30). -/
theorem si_mem_unit_partial (n : ℕ) (r1 r2 : Steps2D ℝ) (h1 : r1.len = n * n) (h2 : r2.len = n * n)
    (G : TwoSrc ℝ)
    (z1 : G.first_s1_i1.size = n * n) (z2 : G.second_s2_i2.size = n * n)
    (z3 : G.first_s2_i1.size = n * n) (z4 : G.second_s1_i2.size = n * n)
    (z5 : G.first_s1_i2.size = n * n) (z6 : G.second_s2_i1.size = n * n)
    (z7 : G.first_i2_i1.size = n * n) (z8 : G.second_s2_s1.size = n * n)
    (hN : 0 < jsiNorm G.first_s1_i1 * jsiNorm G.second_s2_i2) (δ : ℝ) :
    0 ≤ (twoRate n r1 r2 G δ).2.2 ∧
      (twoRate n r1 r2 G δ).2.2 ≤ 1 / 2 * (1 + jsiNorm G.first_i2_i1 * jsiNorm G.second_s2_s1 /
        (jsiNorm G.first_s1_i1 * jsiNorm G.second_s2_i2)) ∧
      (jsiNorm G.first_i2_i1 * jsiNorm G.second_s2_s1 ≤
          jsiNorm G.first_s1_i1 * jsiNorm G.second_s2_i2 → (twoRate n r1 r2 G δ).2.2 ≤ 1) := by
  rw [twoRate_eq r1 r2 h1 h2]
  exact S4_channel_bounds hN (S4_a_term z1 z2) (S4_b_si z7 z8)

/-- T4 (identical axes). When the signal and idler axes of the common range coincide, all eight
grids the code evaluates are the same array, so all three rates of two identical sources lie in
`[0, 1]` at every delay. -/
theorem all_mem_unit_identical_axes (J : ℝ → ℝ → Cx ℝ) (n : ℕ) (ax : Steps ℝ) (hn : ax.n = n)
    (hN : 0 < jsiNorm (sampled J ⟨ax, ax⟩)) (δ : ℝ) :
    let r : Steps2D ℝ := ⟨ax, ax⟩
    let R := twoRate n r r (twoSrcOf J J r r) δ
    (0 ≤ R.1 ∧ R.1 ≤ 1) ∧ (0 ≤ R.2.1 ∧ R.2.1 ≤ 1) ∧ (0 ≤ R.2.2 ∧ R.2.2 ≤ 1) := by
  intro r R
  have hlen : r.len = n * n := Steps2D.len_sq hn hn
  have hs : (sampled J r).size = n * n := by rw [size_sampled, hlen]
  have h12 := ss_ii_mem_unit n r r hlen hlen _ _ _ hs hs hs hN δ
  have h3 := si_mem_unit_partial n r r hlen hlen (twoSrcOf J J r r) hs hs hs hs hs hs hs hs
    (mul_pos hN hN) δ
  exact ⟨h12.1, h12.2, h3.1, h3.2.2 le_rfl⟩

/-- the by-name views of a two-source result (`HashMap::from(result)`, the serde map of the struct) file every
channel under its own name, carry nothing else, and both ways back (`HomTwoSourceResult::from(map)`, serde
`Deserialize`) return the result; so the identities and bounds above hold verbatim for the values addressed as
`"ss"`, `"ii"`, `"si"` -/
theorem named_view_faithful {β : Type} (r : TwoRes β) (d : β) :
    (r.toNamed.lookup "ss" = some r.ss ∧ r.toNamed.lookup "ii" = some r.ii ∧ r.toNamed.lookup "si" = some r.si) ∧
      r.toNamed.length = 3 ∧ TwoRes.ofNamed d r.toNamed = r ∧ TwoRes.ofNamedStrict r.toNamed = .ok r := by
  refine ⟨⟨?_, ?_, ?_⟩, rfl, ?_, ?_⟩ <;>
    simp [TwoRes.toNamed, TwoRes.ofNamed, TwoRes.ofNamedStrict, List.lookup]

/-- a map that lacks a channel gives the default there (`unwrap_or(T::default())`), and fails strictly -/
example : TwoRes.ofNamed (0 : ℝ) [("si", 3), ("ss", 1)] = ⟨1, 0, 3⟩ ∧
    TwoRes.ofNamedStrict [("si", (3 : ℝ)), ("ss", 1)] = .err "missing field `ii`" :=
  ⟨rfl, rfl⟩

/-- a concrete 2×2 spectrum satisfying the hypotheses of `ss_trace` / `ss_ii_mem_unit` -/
example : let f : Array (Cx ℝ) := #[⟨1, 0⟩, ⟨0, 1⟩, ⟨2, 0⟩, ⟨0, 0⟩]
    let r : Steps2D ℝ := ⟨⟨1, 2, 2⟩, ⟨3, 5, 2⟩⟩
    (0 ≤ (twoRate 2 r r (sixEq f f f) 0.7).1 ∧ (twoRate 2 r r (sixEq f f f) 0.7).1 ≤ 1) ∧
      (0 ≤ (twoRate 2 r r (sixEq f f f) 0.7).2.1 ∧ (twoRate 2 r r (sixEq f f f) 0.7).2.1 ≤ 1) := by
  intro f r
  exact ss_ii_mem_unit 2 r r rfl rfl f f f rfl rfl rfl (by norm_num [f, jsiNorm, sumList, Cx.normSq]) _

/-- the hypotheses of `visibility_eq_purity` are satisfiable (constant amplitude on a 2×2 grid with
unequal axes) -/
example : ∃ p vsi, twoSourceVisibilities true (⟨⟨1, 2, 2⟩, ⟨3, 5, 2⟩⟩ : Steps2D ℝ) ⟨⟨1, 2, 2⟩, ⟨3, 5, 2⟩⟩
    (twoSrcOf (fun _ _ => ⟨1, 0⟩) (fun _ _ => ⟨1, 0⟩) ⟨⟨1, 2, 2⟩, ⟨3, 5, 2⟩⟩ ⟨⟨1, 2, 2⟩, ⟨3, 5, 2⟩⟩) 0 0 0 =
      .ok (p, p, vsi) := by
  obtain ⟨vsi, h⟩ := visibility_eq_purity (fun _ _ => (⟨1, 0⟩ : Cx ℝ)) 2 ⟨⟨1, 2, 2⟩, ⟨3, 5, 2⟩⟩ rfl rfl
    (by norm_num [sampled, Steps2D.len, jsiNorm, sumList, Cx.normSq, List.range, List.range.loop]) 0 0 0
  exact ⟨_, vsi, h⟩

/-! ## composed model (grid level)

The theorems above take the eight amplitude grids (or an amplitude function `J`) as inputs.  Below
they are lifted to the COMPOSED model (`Spdc/Model/ComposeGrid.lean`): `homTwoSourceVisibilities` and
`homTwoSourceSeries` are `SPDC::hom_two_source_visibilities` / `hom_two_source_rate_series` of a
primitive setup against itself — spectrum objects through the composed `try_as_optimum`, the eight
grids by mapping the composed `jsa` over the eight axis pairs in the code's order. -/

/-- the three `assert_eq!` pass on a square range and the eight composed grids are the layer's
`twoSrcOf` of the total composed amplitude function -/
theorem compose_twoSrc_eq (js : Compose.JS ℝ) (J : PM.JSetup ℝ) (hJ : Compose.jsetup js.S = .ok J)
    (q : List (ℝ × ℝ) × ℝ) (hq : Compose.simpsonRule js.divs = .ok q) (r : Steps2D ℝ)
    (hxy : r.x.n = r.y.n) :
    Compose.twoSrcChecked js js r r = .ok (twoSrcOf (PM.jsa J q.1 q.2) (PM.jsa J q.1 q.2) r r) := by
  unfold Compose.twoSrcChecked
  simp only [hxy, ne_eq, not_true_eq_false, if_false]
  exact Compose.twoSrc_eq hJ hJ hq hq r r

/-- composed model, T1+T2 lifted: for ANY primitive setup against itself on a square range (non-zero
composed spectrum), the signal–signal and idler–idler visibilities returned by the composed
`SPDC::hom_two_source_visibilities` both equal the purity `Σλ²/(Σλ)²` of the composed amplitude
matrix (`λ` the eigenvalues of `FᴴF`). -/
theorem compose_visibility_eq_purity (S : Compose.Setup ℝ) (divs : Nat) (js : Compose.JS ℝ)
    (hjs : Compose.jointSpectrum S divs = .ok js) (J : PM.JSetup ℝ) (hJ : Compose.jsetup S = .ok J)
    (q : List (ℝ × ℝ) × ℝ) (hq : Compose.simpsonRule divs = .ok q)
    (n : ℕ) (r : Steps2D ℝ) (hx : r.x.n = n) (hy : r.y.n = n)
    (hN : jsiNorm (sampled (PM.jsa J q.1 q.2) r) ≠ 0) :
    let hG := Matrix.isHermitian_conjTranspose_mul_self (Fmat (sampled (PM.jsa J q.1 q.2) r) n)
    ∃ vsi, Compose.homTwoSourceVisibilities S divs (.freq r) =
      .ok ((∑ i, (hG.eigenvalues i) ^ 2) / (∑ i, hG.eigenvalues i) ^ 2,
           (∑ i, (hG.eigenvalues i) ^ 2) / (∑ i, hG.eigenvalues i) ^ 2, vsi) := by
  intro hG
  obtain ⟨rfl, rfl, -⟩ := Compose.jointSpectrum_ok hjs
  obtain ⟨vsi, hv⟩ := visibility_eq_purity (PM.jsa J q.1 q.2) n r hx hy hN (0.0 : ℝ) (0.0 : ℝ) (0.0 : ℝ)
  refine ⟨vsi, ?_⟩
  unfold Compose.homTwoSourceVisibilities
  simp only [hjs, Outcome.bind_ok, Compose.Ranges.toFrequencySpace,
    compose_twoSrc_eq js J hJ q hq r (hx.trans hy.symm)]
  exact hv

/-- composed model, T4 lifted: on a range with identical signal and idler axes all three rates of the
composed `SPDC::hom_two_source_rate_series` lie in `[0, 1]` at every delay. -/
theorem compose_two_source_mem_unit (S : Compose.Setup ℝ) (divs : Nat) (js : Compose.JS ℝ)
    (hjs : Compose.jointSpectrum S divs = .ok js) (J : PM.JSetup ℝ) (hJ : Compose.jsetup S = .ok J)
    (q : List (ℝ × ℝ) × ℝ) (hq : Compose.simpsonRule divs = .ok q)
    (n : ℕ) (ax : Steps ℝ) (hn : ax.n = n)
    (hN : 0 < jsiNorm (sampled (PM.jsa J q.1 q.2) ⟨ax, ax⟩)) (δ : ℝ) :
    ∃ ss ii si, Compose.homTwoSourceSeries S divs (.freq ⟨ax, ax⟩) [δ] = .ok ([ss], [ii], [si]) ∧
      (0 ≤ ss ∧ ss ≤ 1) ∧ (0 ≤ ii ∧ ii ≤ 1) ∧ (0 ≤ si ∧ si ≤ 1) := by
  obtain ⟨rfl, rfl, -⟩ := Compose.jointSpectrum_ok hjs
  have hb := all_mem_unit_identical_axes (PM.jsa J q.1 q.2) n ax hn hN δ
  refine ⟨_, _, _, ?_, hb⟩
  unfold Compose.homTwoSourceSeries Compose.homTwoSourceSeriesJS
  simp only [hjs, Outcome.bind_ok, Compose.Ranges.toFrequencySpace,
    compose_twoSrc_eq js J hJ q hq ⟨ax, ax⟩ rfl]
  simp [homTwoSourceSeries, hn]

/-- non-vacuity of the structural hypotheses: a 2×2 range with identical axes -/
example : (⟨⟨1, 2, 2⟩, ⟨1, 2, 2⟩⟩ : Steps2D ℝ).x.n = 2 ∧ (⟨⟨1, 2, 2⟩, ⟨1, 2, 2⟩⟩ : Steps2D ℝ).y.n = 2 :=
  ⟨rfl, rfl⟩

/-- the hypotheses `hjs`, `hJ`, `hq` of the composed theorems hold for the concrete setup `Compose.exGrid` -/
example : ∃ js J q, Compose.jointSpectrum Compose.exGrid 50 = .ok js ∧ Compose.jsetup Compose.exGrid = .ok J ∧
    (Compose.simpsonRule 50 : Outcome (List (ℝ × ℝ) × ℝ)) = .ok q := Compose.exGrid_available

end Spdc.Props.C10
