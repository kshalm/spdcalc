import Spdc.Real.SchmidtLemmas
import Spdc.Real.ComposeGridLemmas
/-!
# C11 — the Schmidt number is a proper effective-mode count

Property theorems only; all but the last section (the composed model) are about the executable
trace-form model `Spdc.Schmidt.schmidt` at the ℝ instance.  `magMat amps d` is the entry-wise magnitude matrix `A i j = |F[i·d + j]|` and
`M = AᵀA`.  Helper lemmas: `Spdc/Real/SchmidtLemmas.lean`, for the last section
`Spdc/Real/ComposeGridLemmas.lean`.
-/
namespace Spdc.Props.C11
open Spdc Spdc.Schmidt Spdc.SchmidtLemmas Matrix

/-- T1. Singular-value form.  With `λ_i = σ_i²` the (non-negative) eigenvalues of `AᵀA`, i.e. the
squared singular values of the magnitude matrix, the model returns `(Σσ²)²/Σσ⁴`. -/
theorem K_eq_sv (amps : Array (Cx ℝ)) (d : ℕ) (hd : 0 < d) (h : amps.size = d * d) :
    (∀ i, 0 ≤ (isHermitian_gram (magMat amps d)).eigenvalues i) ∧
      schmidt amps = .ok ((∑ i, (isHermitian_gram (magMat amps d)).eigenvalues i) ^ 2 /
        ∑ i, ((isHermitian_gram (magMat amps d)).eigenvalues i) ^ 2) :=
  ⟨(posSemidef_gram _).eigenvalues_nonneg, by rw [schmidt_square amps d hd h, partRatio_eq_eigen]⟩

/-- T2. `1 ≤ K ≤ n` for every non-zero square array of side `n`. -/
theorem one_le_K_le_n (amps : Array (Cx ℝ)) (n : ℕ) (h : amps.size = n * n)
    (hnz : ∃ k, k < amps.size ∧ (amps.getD k Cx.zero).toC ≠ 0) :
    ∃ K, schmidt amps = .ok K ∧ 1 ≤ K ∧ K ≤ n := by
  have hA := magMat_ne_zero amps n h hnz
  have hn : 0 < n := Nat.pos_of_ne_zero fun h0 => hA (by subst h0; ext i; exact i.elim0)
  exact ⟨_, schmidt_square amps n hn h, partRatio_bounds (posSemidef_gram _) (gram_ne_zero hA)⟩

/-- T3a. A separable (outer-product) array has `K = 1`. -/
theorem K_rank_one (amps : Array (Cx ℝ)) (n : ℕ) (h : amps.size = n * n) (u v : ℕ → ℂ)
    (hsep : ∀ i j, i < n → j < n → (amps.getD (i * n + j) Cx.zero).toC = u i * v j)
    (hu : ∃ i, i < n ∧ u i ≠ 0) (hv : ∃ j, j < n ∧ v j ≠ 0) :
    schmidt amps = .ok 1 := by
  have hn : 0 < n := by obtain ⟨i, hi, _⟩ := hu; omega
  have hA : magMat amps n = vecMulVec (fun i : Fin n => ‖u i‖) (fun j : Fin n => ‖v j‖) := by
    ext i j; simp only [magMat, hsep i j i.isLt j.isLt, norm_mul, vecMulVec_apply]
  obtain ⟨i, hi, hui⟩ := hu
  obtain ⟨j, hj, hvj⟩ := hv
  rw [schmidt_square amps n hn h, hA, partRatio_gram_vecMulVec]
  · exact fun h0 => hui (norm_eq_zero.mp (congrFun h0 ⟨i, hi⟩))
  · exact fun h0 => hvj (norm_eq_zero.mp (congrFun h0 ⟨j, hj⟩))

/-- T3b. A diagonal array of equal non-zero magnitudes has `K = n`. -/
theorem K_diag_equal (amps : Array (Cx ℝ)) (n : ℕ) (hn : 0 < n) (h : amps.size = n * n) (m : ℝ)
    (hm : 0 < m)
    (hdiag : ∀ i j, i < n → j < n →
      ‖(amps.getD (i * n + j) Cx.zero).toC‖ = if i = j then m else 0) :
    schmidt amps = .ok n := by
  have hA : magMat amps n = m • (1 : Matrix (Fin n) (Fin n) ℝ) := by
    ext i j
    simp only [magMat, hdiag i j i.isLt j.isLt, Matrix.smul_apply, Matrix.one_apply, Fin.ext_iff,
      smul_eq_mul, mul_ite, mul_one, mul_zero]
  rw [schmidt_square amps n hn h, hA, Matrix.transpose_smul, Matrix.transpose_one, Matrix.smul_mul,
    Matrix.one_mul, smul_smul, partRatio_smul (mul_ne_zero hm.ne' hm.ne'), partRatio_one hn]

/-- T4a. `K` is unchanged by a global non-zero complex factor. -/
theorem K_scale (c : Cx ℝ) (hc : c.toC ≠ 0) (amps : Array (Cx ℝ)) (n : ℕ) (h : amps.size = n * n) :
    schmidt (scaleArr c amps) = schmidt amps := by
  have hcn : ‖c.toC‖ ≠ 0 := norm_ne_zero_iff.mpr hc
  rw [schmidt_eq _ n (by simp [scaleArr, h]), schmidt_eq amps n h, magMat_scaleArr c n amps h,
    Matrix.transpose_smul, Matrix.smul_mul, Matrix.mul_smul, smul_smul,
    partRatio_smul (mul_ne_zero hcn hcn)]

/-- T4b. `K` is unchanged by arbitrary element-wise phases. -/
theorem K_phase (θ : ℕ → ℝ) (amps : Array (Cx ℝ)) (n : ℕ) (h : amps.size = n * n) :
    schmidt (phaseArr θ amps) = schmidt amps := by
  rw [schmidt_eq _ n (by simp [phaseArr, h]), schmidt_eq amps n h, magMat_phaseArr θ n amps h]

/-- T4c. `K` is unchanged by transposition. -/
theorem K_transpose (amps : Array (Cx ℝ)) (n : ℕ) (h : amps.size = n * n) :
    schmidt (transposeArr n amps) = schmidt amps := by
  rw [schmidt_eq _ n (by simp [transposeArr]), schmidt_eq amps n h, magMat_transposeArr,
    partRatio_gram_transpose]

/-- T5. A flat array is rejected exactly when its length is not a perfect square. -/
theorem nonsquare_err (amps : Array (Cx ℝ)) :
    (¬ ∃ d, amps.size = d * d) ↔ schmidt amps = .err "not-square" := by
  constructor
  · intro h
    have : amps.size ≠ Nat.sqrt amps.size * Nat.sqrt amps.size := fun e => h ⟨_, e⟩
    simp [schmidt, this]
  · rintro h ⟨d, hd⟩
    rw [schmidt_eq amps d hd] at h
    split at h <;> cases h

/-- T5'. Outcomes: a value on every non-empty square length, the error on non-square lengths; the
only panic is the empty array (nalgebra refuses the SVD of a 0×0 matrix — outside the statement,
which speaks of non-zero arrays). -/
theorem schmidt_outcomes (amps : Array (Cx ℝ)) :
    (0 < amps.size ∧ ∃ K, schmidt amps = .ok K) ∨ schmidt amps = .err "not-square" ∨
      (amps.size = 0 ∧ (schmidt amps).isPanic = true) := by
  by_cases hsq : ∃ d, amps.size = d * d
  · obtain ⟨d, hd⟩ := hsq
    rw [schmidt_eq amps d hd, hd]
    rcases Nat.eq_zero_or_pos d with rfl | hpos
    · exact .inr (.inr ⟨rfl, rfl⟩)
    · exact .inl ⟨Nat.mul_pos hpos hpos, _, if_neg hpos.ne'⟩
  · exact .inr (.inl ((nonsquare_err amps).mp hsq))

/-- T6. The setup-level Schmidt number is the array-level function applied to the setup's sampled
amplitudes; in particular it errs exactly when the number of grid points is not a perfect square. -/
theorem setup_wrapper (J : ℝ → ℝ → Cx ℝ) (points : List (ℝ × ℝ)) :
    schmidtSetup J points = schmidt ((points.map fun p => J p.1 p.2).toArray) ∧
      ((¬ ∃ d, points.length = d * d) ↔ schmidtSetup J points = .err "not-square") := by
  refine ⟨rfl, ?_⟩
  have := nonsquare_err ((points.map fun p => J p.1 p.2).toArray)
  simpa [schmidtSetup] using this

/-- a concrete 2×2 non-zero array: the hypotheses of `one_le_K_le_n` are satisfiable -/
example : ∃ K, schmidt (#[⟨1, 0⟩, ⟨0, 2⟩, ⟨0, 0⟩, ⟨1, 1⟩] : Array (Cx ℝ)) = .ok K ∧ 1 ≤ K ∧ K ≤ (2 : ℕ) :=
  one_le_K_le_n _ 2 rfl ⟨0, by simp, by simp [Cx.toC, Complex.ext_iff]⟩

/-- the hypotheses of `K_diag_equal` hold for a 2×2 diagonal array of modulus 3 (phases differ) -/
example : schmidt (#[⟨0, 3⟩, ⟨0, 0⟩, ⟨0, 0⟩, ⟨3, 0⟩] : Array (Cx ℝ)) = .ok (2 : ℕ) :=
  K_diag_equal _ 2 (by norm_num) rfl 3 (by norm_num) (by
    intro i j hi hj
    have hi' : i = 0 ∨ i = 1 := by omega
    have hj' : j = 0 ∨ j = 1 := by omega
    rcases hi' with rfl | rfl <;> rcases hj' with rfl | rfl <;>
      simp [Cx.toC, Complex.norm_def, Complex.normSq_apply, Cx.zero, lit_zero])

/-- `nonsquare_err` at an array of length 3 -/
example : schmidt (#[⟨1, 0⟩, ⟨0, 2⟩, ⟨0, 0⟩] : Array (Cx ℝ)) = .err "not-square" :=
  (nonsquare_err _).mp fun ⟨d, hd⟩ =>
    Nat.not_exists_sq (m := 1) (by decide) (by decide) ⟨d, hd.symm⟩

/-! ## composed model (grid level)

The theorems above are about the trace-form Schmidt number of an arbitrary flat array.  Below they are
lifted to the COMPOSED model (`Spdc/Model/ComposeGrid.lean`): `schmidtNumber S divs R` is
`spdc.joint_spectrum(Simpson{divs}).schmidt_number(R)` computed from the primitive setup — the spectrum
object through the composed `try_as_optimum`, the amplitude array by mapping the composed `jsa` over
the row-major enumeration of the frequency space `R` converts to.  Note that the code (and the model)
reshape the `nx·ny` amplitudes into a `√(nx·ny)`-sided square whatever the two step counts are. -/

/-- the composed Schmidt number is the layer function applied to the composed amplitude array -/
theorem compose_schmidt_eq (S : Compose.Setup ℝ) (divs : Nat) (js : Compose.JS ℝ)
    (hjs : Compose.jointSpectrum S divs = .ok js) (J : PM.JSetup ℝ) (hJ : Compose.jsetup S = .ok J)
    (q : List (ℝ × ℝ) × ℝ) (hq : Compose.simpsonRule divs = .ok q) (R : Compose.Ranges ℝ) :
    Compose.schmidtNumber S divs R
      = schmidtSetup (PM.jsa J q.1 q.2) R.toFrequencySpace.collect := by
  obtain ⟨rfl, rfl, -⟩ := Compose.jointSpectrum_ok hjs
  rw [Compose.schmidtNumber, hjs, Outcome.bind_ok, Compose.JS.jsaRange, Compose.Ranges.points,
    Compose.JS.jsa_total hJ hq, Compose.mapPoints_total, Outcome.bind_ok, schmidtSetup]

/-- composed model, T2 lifted: whenever the number of grid points is a perfect square `n²` and the
composed spectrum does not vanish at every grid point, the composed Schmidt number of ANY primitive
setup over ANY range satisfies `1 ≤ K ≤ n`. -/
theorem compose_schmidt_bounds (S : Compose.Setup ℝ) (divs : Nat) (js : Compose.JS ℝ)
    (hjs : Compose.jointSpectrum S divs = .ok js) (J : PM.JSetup ℝ) (hJ : Compose.jsetup S = .ok J)
    (q : List (ℝ × ℝ) × ℝ) (hq : Compose.simpsonRule divs = .ok q) (R : Compose.Ranges ℝ) (n : ℕ)
    (hlen : R.toFrequencySpace.x.n * R.toFrequencySpace.y.n = n * n)
    (hnz : ∃ p ∈ R.toFrequencySpace.collect, (PM.jsa J q.1 q.2 p.1 p.2).toC ≠ 0) :
    ∃ K, Compose.schmidtNumber S divs R = .ok K ∧ 1 ≤ K ∧ K ≤ n := by
  rw [compose_schmidt_eq S divs js hjs J hJ q hq R, (setup_wrapper _ _).1]
  apply one_le_K_le_n
  · simp [Grid.Steps2D.collect_length, hlen]
  · obtain ⟨p, hp, hne⟩ := hnz
    obtain ⟨k, hk, rfl⟩ := List.getElem_of_mem hp
    refine ⟨k, by simpa using hk, ?_⟩
    simpa [Array.getD, hk] using hne

/-- composed model, T5 lifted: a range whose number of grid points is not a perfect square is rejected
with the `Err` (and only then, given that the spectrum object and the amplitudes exist). -/
theorem compose_schmidt_nonsquare (S : Compose.Setup ℝ) (divs : Nat) (js : Compose.JS ℝ)
    (hjs : Compose.jointSpectrum S divs = .ok js) (J : PM.JSetup ℝ) (hJ : Compose.jsetup S = .ok J)
    (q : List (ℝ × ℝ) × ℝ) (hq : Compose.simpsonRule divs = .ok q) (R : Compose.Ranges ℝ) :
    (¬ ∃ d, R.toFrequencySpace.x.n * R.toFrequencySpace.y.n = d * d)
      ↔ Compose.schmidtNumber S divs R = .err "not-square" := by
  rw [compose_schmidt_eq S divs js hjs J hJ q hq R, ← (setup_wrapper _ _).2, Grid.Steps2D.collect_length]

/-- non-vacuity: a 2×3 range has a non-square number of points; a 1×4 range reshapes to side 2 -/
example : ¬ ∃ d, (2 : ℕ) * 3 = d * d :=
  fun ⟨d, hd⟩ => Nat.not_exists_sq (m := 2) (by decide) (by decide) ⟨d, hd.symm⟩

example : (1 : ℕ) * 4 = 2 * 2 := rfl

/-- the hypotheses `hjs`, `hJ`, `hq` of the composed theorems hold for the concrete setup `Compose.exGrid` -/
example : ∃ js J q, Compose.jointSpectrum Compose.exGrid 50 = .ok js ∧ Compose.jsetup Compose.exGrid = .ok J ∧
    (Compose.simpsonRule 50 : Outcome (List (ℝ × ℝ) × ℝ)) = .ok q := Compose.exGrid_available

end Spdc.Props.C11
