import Spdc.Real.Jsa
import Spdc.Real.ComposeLemmas
/-!
# C07 — spectrum scales with power and deff², follows the Gaussian pump, is zero off-support

Statements are about the executable model of `common_norm`, `jsi_normalization`,
`jsi_singles_normalization`, `pump_spectral_amplitude`, `fwhm_to_spectral_width`,
`invalid_frequencies`, `jsa_raw`, `jsi_singles_raw`,
`JointSpectrum::{jsa,jsi,jsi_singles,*_normalized}`, `efficiencies_from_counts`
(`Spdc/Model/{Norm,Jsa}.lean`) at `α := ℝ`; the z-quadrature is any fixed-weight rule, the singles
phase-matching function `sr` is arbitrary.
-/
namespace Spdc.Props.C07
open Spdc Spdc.PM

/-- T1. `common_norm`, hence `jsi_normalization` and `jsi_singles_normalization`, are linear in the
pump power and quadratic in `deff`; `jsa_raw` and `jsi_singles_raw` read neither; hence `jsi`,
`jsi_singles` and every count rate (a sum over a grid times the correction factor) scale by
`a·b²`. -/
theorem norm_linear (J : JSetup ℝ) (sr : Setup ℝ → ℝ → ℝ → ℝ) (a b : ℝ)
    (nodes : List (ℝ × ℝ)) (scale ωs ωi ns ni corr dw2 : ℝ) (grid : List (ℝ × ℝ)) :
    commonNorm (J.scaled a b).normIn ωs ωi ns ni = a * b ^ 2 * commonNorm J.normIn ωs ωi ns ni
    ∧ jsiNormalization (J.scaled a b).normIn (J.scaled a b).sig (J.scaled a b).idl ωs ωi
        = a * b ^ 2 * jsiNormalization J.normIn J.sig J.idl ωs ωi
    ∧ jsiSinglesNormalization (J.scaled a b).normIn (J.scaled a b).sig (J.scaled a b).idl ωs ωi
        = a * b ^ 2 * jsiSinglesNormalization J.normIn J.sig J.idl ωs ωi
    ∧ jsaRaw (J.scaled a b) nodes scale ωs ωi = jsaRaw J nodes scale ωs ωi
    ∧ jsiSinglesRaw sr (J.scaled a b) ωs ωi = jsiSinglesRaw sr J ωs ωi
    ∧ jsi (J.scaled a b) nodes scale ωs ωi = a * b ^ 2 * jsi J nodes scale ωs ωi
    ∧ jsiSingles sr (J.scaled a b) ωs ωi = a * b ^ 2 * jsiSingles sr J ωs ωi
    ∧ countsSum corr dw2 grid (jsi (J.scaled a b) nodes scale)
        = a * b ^ 2 * countsSum corr dw2 grid (jsi J nodes scale)
    ∧ countsSum corr dw2 grid (jsiSingles sr (J.scaled a b))
        = a * b ^ 2 * countsSum corr dw2 grid (jsiSingles sr J) :=
  ⟨commonNorm_scaled J a b ωs ωi ns ni, jsiNormalization_scaled J a b J.sig J.idl ωs ωi,
    jsiSinglesNormalization_scaled J a b J.sig J.idl ωs ωi, rfl, rfl, jsiOfRaw_scaled J a b ωs ωi _,
    jsiSingles_scaled sr J a b ωs ωi,
    countsSum_smul corr dw2 grid fun x y => jsiOfRaw_scaled J a b x y _,
    countsSum_smul corr dw2 grid fun x y => jsiSingles_scaled sr J a b x y⟩

/-- the amplitude scales by `√a·|b|` (magnitude only: the phase is untouched) -/
theorem jsa_scaling (J : JSetup ℝ) (a b : ℝ) (ha : 0 ≤ a) (nodes : List (ℝ × ℝ)) (scale ωs ωi : ℝ) :
    jsa (J.scaled a b) nodes scale ωs ωi = Cx.smul (Real.sqrt a * |b|) (jsa J nodes scale ωs ωi) :=
  jsaOfRaw_scaled J a b ha ωs ωi _

/-- T2a. Efficiencies (`efficiencies_from_counts`) do not change when the three rates are scaled
by a common positive factor (`s = a·b²`). -/
theorem ratios_invariant_efficiencies (s cc ss si : ℝ) (hs : 0 < s) :
    efficienciesFromCounts (s * cc) (s * ss) (s * si) = efficienciesFromCounts cc ss si := by
  have hne : s ≠ 0 := hs.ne'
  have hz : ∀ r : ℝ, PM.isZero (s * r) = PM.isZero r := fun r => by
    rw [Bool.eq_iff_iff, isZero_iff, isZero_iff, mul_eq_zero, or_iff_right hne]
  have hsq : Transc.sqrt (s * ss * (s * si)) = s * Transc.sqrt (ss * si) := by
    show Real.sqrt (s * ss * (s * si)) = s * Real.sqrt (ss * si)
    rw [mul_mul_mul_comm, Real.sqrt_mul (mul_self_nonneg s), Real.sqrt_mul_self hs.le]
  simp only [efficienciesFromCounts, hz, hsq, mul_div_mul_left _ _ hne]

/-- T2b. Normalised spectra (`jsi_normalized`, `jsi_singles_normalized`, `jsa_normalized`; the
reference is computed from the optimum clone `Jo`, which carries the same power and deff) do not
depend on power and deff. -/
theorem ratios_invariant_normalized (J Jo : JSetup ℝ) (sr : Setup ℝ → ℝ → ℝ → ℝ) (a b : ℝ)
    (ha : 0 < a) (hb : b ≠ 0) (nodes : List (ℝ × ℝ)) (scale ωs ωi : ℝ)
    (hn : 0 ≤ jsiNormalization Jo.normIn Jo.sig Jo.idl Jo.sig.freq Jo.idl.freq) :
    jsiNormalized (J.scaled a b) (Jo.scaled a b) nodes scale ωs ωi = jsiNormalized J Jo nodes scale ωs ωi
    ∧ jsiSinglesNormalized sr (J.scaled a b) (Jo.scaled a b) ωs ωi = jsiSinglesNormalized sr J Jo ωs ωi
    ∧ jsaNormalized (J.scaled a b) (Jo.scaled a b) nodes scale ωs ωi = jsaNormalized J Jo nodes scale ωs ωi := by
  have hs : a * b ^ 2 ≠ 0 := mul_ne_zero ha.ne' (pow_ne_zero 2 hb)
  have hk : Real.sqrt a * |b| ≠ 0 := (mul_pos (Real.sqrt_pos.mpr ha) (abs_pos.mpr hb)).ne'
  have hk2 : (Real.sqrt a * |b|) * (Real.sqrt a * |b|) = a * b ^ 2 := by
    rw [mul_mul_mul_comm, Real.mul_self_sqrt ha.le, abs_mul_abs_self, sq]
  refine ⟨?_, ?_, ?_⟩
  · unfold jsiNormalized
    simp only []
    rw [jsaCenter_scaled Jo a b ha.le, mul_mul_mul_comm, hk2]
    exact (congrArg (· / _) (jsiOfRaw_scaled J a b ωs ωi _)).trans (mul_div_mul_left _ _ hs)
  · unfold jsiSinglesNormalized
    rw [jsiSingles_scaled, jsiSinglesCenter_scaled, mul_div_mul_left _ _ hs]
  · unfold jsaNormalized
    rw [jsaCenter_scaled Jo a b ha.le, jsa_scaling J a b ha.le]
    apply Cx.toC_injective
    simp only [Cx.toC_divs, Cx.toC_smul]
    push_cast
    exact mul_div_mul_left _ _ (by exact_mod_cast hk)

/-- T2c. Every functional of the joint amplitudes that is homogeneous of degree 0 (Schmidt number:
C11; HOM rate and visibilities: C09, C10) takes the same value on the spectra of the scaled setup. -/
theorem ratios_invariant_homogeneous (J : JSetup ℝ) (a b : ℝ) (ha : 0 < a) (hb : b ≠ 0)
    (nodes : List (ℝ × ℝ)) (scale : ℝ) (grid : List (ℝ × ℝ)) {β : Type} (F : List ℂ → β)
    (hF : ∀ c : ℝ, c ≠ 0 → ∀ v : List ℂ, F (v.map fun z => (c : ℂ) * z) = F v) :
    F (grid.map fun p => (jsa (J.scaled a b) nodes scale p.1 p.2).toC)
      = F (grid.map fun p => (jsa J nodes scale p.1 p.2).toC) := by
  obtain ⟨c, hc, h⟩ := jsa_samples_scaled J a b ha hb nodes scale grid
  rw [h, hF c hc]

/-- T2d. Two-source functionals (two-source HOM rate and visibilities, C10) that are homogeneous of
degree 0 in EACH list of amplitudes take the same value whatever the power and deff of either
source. -/
theorem ratios_invariant_two_source (J1 J2 : JSetup ℝ) (a1 b1 a2 b2 : ℝ) (ha1 : 0 < a1) (hb1 : b1 ≠ 0)
    (ha2 : 0 < a2) (hb2 : b2 ≠ 0) (nodes : List (ℝ × ℝ)) (scale : ℝ) (grid1 grid2 : List (ℝ × ℝ))
    {β : Type} (F : List ℂ → List ℂ → β)
    (hF : ∀ c1 c2 : ℝ, c1 ≠ 0 → c2 ≠ 0 → ∀ v1 v2 : List ℂ,
      F (v1.map fun z => (c1 : ℂ) * z) (v2.map fun z => (c2 : ℂ) * z) = F v1 v2) :
    F (grid1.map fun p => (jsa (J1.scaled a1 b1) nodes scale p.1 p.2).toC)
        (grid2.map fun p => (jsa (J2.scaled a2 b2) nodes scale p.1 p.2).toC)
      = F (grid1.map fun p => (jsa J1 nodes scale p.1 p.2).toC)
          (grid2.map fun p => (jsa J2 nodes scale p.1 p.2).toC) := by
  obtain ⟨c1, hc1, h1⟩ := jsa_samples_scaled J1 a1 b1 ha1 hb1 nodes scale grid1
  obtain ⟨c2, hc2, h2⟩ := jsa_samples_scaled J2 a2 b2 ha2 hb2 nodes scale grid2
  rw [h1, h2, hF c1 c2 hc1 hc2]

/-- T3a. The pump envelope has amplitude 1 at the pump centre frequency. -/
theorem envelope_centre (ω0 fwhm : ℝ) : pumpSpectralAmplitude ω0 ω0 fwhm = 1 := by
  simp [pumpSpectralAmplitude, Transc.exp]

/-- T3b. With `Δ = ω(λ_p − ½fwhm) − ω(λ_p + ½fwhm)` the frequency span of the wavelength FWHM, the
intensity (amplitude squared) is one half at `ω_p ± Δ/2` (`0 < fwhm < 2λ_p` makes `Δ > 0`). -/
theorem envelope_half (ω0 fwhm : ℝ) (hf : 0 < fwhm) (hl : fwhm < 2 * freqToWavelength ω0) :
    let Δ := fwhmFreqSpan (freqToWavelength ω0) fwhm
    0 < Δ ∧ (pumpSpectralAmplitude (ω0 + Δ / 2) ω0 fwhm) ^ 2 = 1 / 2
      ∧ (pumpSpectralAmplitude (ω0 - Δ / 2) ω0 fwhm) ^ 2 = 1 / 2 := by
  intro Δ
  have hpos := fwhmFreqSpan_pos (freqToWavelength ω0) fwhm hf hl
  refine ⟨hpos, envelope_half_at_offset ω0 fwhm _ hpos.ne' (by ring), ?_⟩
  rw [sub_eq_add_neg]
  exact envelope_half_at_offset ω0 fwhm _ hpos.ne' (by ring)

/-- T4. Inside the support and above the threshold the raw joint amplitude is the envelope at
`ω_s + ω_i` times the phase-matching amplitude. -/
theorem jsaRaw_factor (J : JSetup ℝ) (nodes : List (ℝ × ℝ)) (scale ωs ωi : ℝ)
    (hv : invalidFrequencies ωs ωi J.omegaP = false)
    (ht : J.threshold ≤ pumpSpectralAmplitude (ωs + ωi) J.omegaP J.bandwidth) :
    jsaRaw J nodes scale ωs ωi
      = Cx.smul (pumpSpectralAmplitude (ωs + ωi) J.omegaP J.bandwidth)
          (pmCoincQ J.toSetup nodes scale ωs ωi) := by
  unfold jsaRaw
  simp [hv, not_lt.mpr ht]

/-- T4b. The singles raw intensity has the SAME support logic as the coincidence amplitude (the
envelope AMPLITUDE is compared with the threshold) and is the squared envelope times the singles
phase-matching function inside it. -/
theorem jsiSinglesRaw_factor (J : JSetup ℝ) (sr : Setup ℝ → ℝ → ℝ → ℝ) (ωs ωi : ℝ)
    (hv : invalidFrequencies ωs ωi J.omegaP = false)
    (ht : J.threshold ≤ pumpSpectralAmplitude (ωs + ωi) J.omegaP J.bandwidth) :
    jsiSinglesRaw sr J ωs ωi
      = pumpSpectralAmplitude (ωs + ωi) J.omegaP J.bandwidth
          * pumpSpectralAmplitude (ωs + ωi) J.omegaP J.bandwidth * sr J.toSetup ωs ωi := by
  unfold jsiSinglesRaw
  simp [hv, not_lt.mpr ht]

/-- T5. Exact zeros off-support: below the threshold, for a non-positive frequency, above the pump
frequency, or for `|ω_s − ω_i| > ¾ω_p`, every spectrum is the literal zero. -/
theorem zero_off_support (J : JSetup ℝ) (sr : Setup ℝ → ℝ → ℝ → ℝ) (nodes : List (ℝ × ℝ))
    (scale ωs ωi : ℝ)
    (h : pumpSpectralAmplitude (ωs + ωi) J.omegaP J.bandwidth < J.threshold ∨ ωs ≤ 0 ∨ ωi ≤ 0
      ∨ J.omegaP < ωs ∨ J.omegaP < ωi ∨ 3 / 4 * J.omegaP < |ωs - ωi|) :
    jsaRaw J nodes scale ωs ωi = Cx.zero ∧ jsiSinglesRaw sr J ωs ωi = 0
      ∧ jsa J nodes scale ωs ωi = Cx.zero ∧ jsi J nodes scale ωs ωi = 0
      ∧ jsiSingles sr J ωs ωi = 0 := by
  have hoff : invalidFrequencies ωs ωi J.omegaP = true
      ∨ pumpSpectralAmplitude (ωs + ωi) J.omegaP J.bandwidth < J.threshold :=
    h.symm.imp (invalidFrequencies_iff ωs ωi J.omegaP).mpr id
  have hs : jsiSinglesRaw sr J ωs ωi = 0 := (ite_off_support _ _ hoff).trans lit_zero
  exact ⟨jsaRaw_off_support J nodes scale hoff, hs, jsa_off_support J nodes scale hoff,
    jsi_off_support J nodes scale hoff, by rw [jsiSingles_eq, hs, mul_zero]⟩

/-! ## composed model

The theorems above are about the joint-spectrum layer with the phase-matching inputs arbitrary.  The
theorems below lift them to the COMPOSED model (`Spdc/Model/Compose.lean`): the only inputs are the
primitive setup `Compose.Setup`; indices, angles, walk-off, `k_eff`, apodisation, the integrand, the
Simpson z-integral and the normalisation are all computed from it through the layer models.  No
assumption beyond those of the layer theorems is needed: pump power and `deff` enter the composition
only through `common_norm`, the threshold and the box only through the support test. -/

/-- composed model, T1 lifted: scaling the primitive pump power by `a` and `deff` by `b` leaves
`jsa_raw` untouched and multiplies the normalisations, `jsi` and `jsi_singles` (all computed from the
primitive inputs through all layers, Simpson quadratures) by `a·b²` — including the panic / `Err`
outcomes, which are the same on both sides. -/
theorem compose_norm_linear (S : Compose.Setup ℝ) (a b : ℝ) (divs : Nat) (ωs ωi : ℝ) :
    Compose.jsaRaw (S.scaled a b) divs ωs ωi = Compose.jsaRaw S divs ωs ωi
      ∧ Compose.jsiNormalization (S.scaled a b) ωs ωi
          = (Compose.jsiNormalization S ωs ωi).map (fun x => a * b ^ 2 * x)
      ∧ Compose.jsiSinglesNormalization (S.scaled a b) ωs ωi
          = (Compose.jsiSinglesNormalization S ωs ωi).map (fun x => a * b ^ 2 * x)
      ∧ Compose.jsi (S.scaled a b) divs ωs ωi
          = (Compose.jsi S divs ωs ωi).map (fun x => a * b ^ 2 * x)
      ∧ Compose.jsiSingles (S.scaled a b) divs ωs ωi
          = (Compose.jsiSingles S divs ωs ωi).map (fun x => a * b ^ 2 * x) := by
  refine ⟨Compose.jsaRaw_scaled S a b divs ωs ωi, ?_, ?_, Compose.jsi_scaled S a b divs ωs ωi,
    Compose.jsiSingles_scaled S a b divs ωs ωi⟩
  · unfold Compose.jsiNormalization
    rw [Compose.jsetup_scaled, Outcome.map_map, Outcome.map_map]
    exact Outcome.map_congr fun J _ => jsiNormalization_scaled J a b J.sig J.idl ωs ωi
  · unfold Compose.jsiSinglesNormalization
    rw [Compose.jsetup_scaled, Outcome.map_map, Outcome.map_map]
    exact Outcome.map_congr fun J _ => jsiSinglesNormalization_scaled J a b J.sig J.idl ωs ωi

/-- composed model, T5 lifted: below the threshold, for a non-positive frequency, above the pump
frequency `2πc/λ_p` of the PRIMITIVE pump wavelength, or for `|ω_s − ω_i| > ¾·2πc/λ_p`, every spectrum
of the composed model is the literal zero — and nothing else is evaluated (no panic of the quadrature,
of `k_eff` or of the walk-off derivative can surface there). -/
theorem compose_zero_off_support (S : Compose.Setup ℝ) (divs : Nat) (ωs ωi : ℝ)
    (h : Compose.pumpAmplitude S (ωs + ωi) < S.threshold ∨ ωs ≤ 0 ∨ ωi ≤ 0
      ∨ 2 * Real.pi * 299792458 / S.lamP < ωs ∨ 2 * Real.pi * 299792458 / S.lamP < ωi
      ∨ 3 / 4 * (2 * Real.pi * 299792458 / S.lamP) < |ωs - ωi|) :
    Compose.jsaRaw S divs ωs ωi = .ok Cx.zero ∧ Compose.jsa S divs ωs ωi = .ok Cx.zero
      ∧ Compose.jsi S divs ωs ωi = .ok 0 ∧ Compose.jsiSingles S divs ωs ωi = .ok 0 := by
  rw [← Compose.omegaP_formula S] at h
  have hoff : Compose.offSupport S ωs ωi = true := (Compose.offSupport_iff S ωs ωi).mpr h
  simp only [Compose.jsaRaw_eq, Compose.jsa_eq, Compose.jsi_eq, Compose.jsiSingles_eq,
    Compose.onSupport_off hoff, lit_zero, and_self]

/-- composed model, T4 lifted: on the support the composed `jsa_raw` is the envelope at `ω_s + ω_i`
(centre `2πc/λ_p`, width from the primitive bandwidth) times the composed `phasematch_fiber_coupling`
(the quadrature layer's Simpson rule applied to the composed integrand). -/
theorem compose_jsaRaw_factor (S : Compose.Setup ℝ) (divs : Nat) (ωs ωi : ℝ)
    (hoff : Compose.offSupport S ωs ωi = false)
    (h1 : ¬ divs + divs % 2 < 2) (h2 : ¬ divs + divs % 2 - 2 < 4) :
    Compose.jsaRaw S divs ωs ωi
      = (Compose.pmCoinc S divs ωs ωi).map (Cx.smul (Compose.pumpAmplitude S (ωs + ωi))) := by
  unfold Compose.jsaRaw Compose.pmCoinc
  rw [hoff, if_neg Bool.false_ne_true, Outcome.map_bind]
  refine Outcome.bind_congr fun J hJ => ?_
  obtain ⟨hw, hb, ht⟩ := Compose.jsetup_pump hJ
  simp only [Compose.offSupport, Bool.or_eq_false_iff, decide_eq_false_iff_not, not_lt] at hoff
  rw [Compose.half_simpson_eq J.toSetup divs ωs ωi h1 h2, pmCoincSimpson_eq_ok _ _ _ _ h1 h2,
    Compose.simpsonRule_eq_ok divs h1 h2,
    Outcome.map_ok, Outcome.map_ok,
    jsaRaw_factor J _ _ ωs ωi (by rw [hw]; exact hoff.1) (by rw [hw, hb, ht]; exact hoff.2), hw, hb]
  rfl

/-- a concrete pump (centre 1 rad/s, FWHM 1 m, far below `2λ = 4πc` m) satisfies the hypotheses of `envelope_half` -/
example : (0 : ℝ) < 1 ∧ (1 : ℝ) < 2 * freqToWavelength (1 : ℝ) := by
  refine ⟨one_pos, ?_⟩
  simp only [freqToWavelength, div_one, twoPi, lit_two, Transc.pi, cLight, lit_cLight]
  linarith [Real.two_le_pi]

/-- the off-support hypothesis is satisfiable without touching the threshold -/
example : (3 : ℝ) / 4 * 4 < |(4 : ℝ) - 0.5| := by norm_num [abs_of_pos]

/-- composed model: the off-support hypothesis is satisfiable for every primitive setup (`ω_s = 0`),
and the division-count side conditions of `compose_jsaRaw_factor` hold for the default Simpson-50 -/
example (S : Compose.Setup ℝ) :
    Compose.pumpAmplitude S (0 + 1) < S.threshold ∨ (0 : ℝ) ≤ 0 ∨ (1 : ℝ) ≤ 0
      ∨ 2 * Real.pi * 299792458 / S.lamP < 0 ∨ 2 * Real.pi * 299792458 / S.lamP < 1
      ∨ 3 / 4 * (2 * Real.pi * 299792458 / S.lamP) < |(0 : ℝ) - 1| := Or.inr (Or.inl le_rfl)

example : ¬ (50 + 50 % 2 < 2) ∧ ¬ (50 + 50 % 2 - 2 < 4) := by decide

end Spdc.Props.C07
