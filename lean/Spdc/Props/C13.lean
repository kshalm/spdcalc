import Spdc.Real.Beam
/-!
# C13 — beam geometry: angle normalisation, the direction/angle invariant over all setter
histories, Snell conversions, unit conversions, automatic waist position

Property theorems only (helper lemmas live in `Spdc/Real/Beam.lean`, `Spdc/Real/Index.lean`).
Statements are about the ℝ-instance of `Spdc/Model/{Units,Beam,Index}.lean`, whose Float instance is
compared with the real `Beam` setters/getters, `normalize_angle(_signed)`, `direction_from_polar`,
`calc_external_theta_from_internal`, `spdcalc::utils` and `optimal_waist_position` on every run.
-/
namespace Spdc.Props.C13
open Spdc Spdc.Units Spdc.Index Spdc.Beam

/-! ### T1 — normalisation -/

/-- `normalize_angle x ∈ [0, 2π)` and `≡ x (mod 2π)`, for every real `x` -/
theorem normalize_range (x : ℝ) :
    0 ≤ normalizeAngle x ∧ normalizeAngle x < 2 * Real.pi ∧
      ∃ k : ℤ, normalizeAngle x = x + k * (2 * Real.pi) :=
  normalizeAngle_spec x

/-- `normalize_angle_signed x ∈ (−π, π]` and `≡ x (mod 2π)`, for every real `x` -/
theorem normalize_signed_range (x : ℝ) :
    -Real.pi < normalizeAngleSigned x ∧ normalizeAngleSigned x ≤ Real.pi ∧
      ∃ k : ℤ, normalizeAngleSigned x = x + k * (2 * Real.pi) :=
  normalizeAngleSigned_spec x

/-! ### T2 — the invariant over all histories -/

/-- a freshly constructed beam satisfies the invariant -/
theorem inv_new (pol : Pol) (φ θ lam : ℝ) (w : Waist ℝ) : Inv (Beam.new pol φ θ lam w) :=
  .of_normalized rfl rfl rfl

/-- every mutation preserves the invariant (the angle setters refresh the cached direction, the
others do not touch angles or direction) -/
theorem inv_step (b : Beam ℝ) (h : Inv b) (op : Op ℝ) : Inv (step b op) := by
  cases op with
  | setPhi φ =>
    obtain ⟨a1, a2, _⟩ := normalizeAngle_spec φ
    exact ⟨directionFromPolar_eq _ _, a1, a2, h.theta_lo, h.theta_hi⟩
  | setThetaInternal θ =>
    obtain ⟨b1, b2, _⟩ := normalizeAngleSigned_spec θ
    exact ⟨directionFromPolar_eq _ _, h.phi_lo, h.phi_hi, b1, b2⟩
  | setAngles _ _ | setThetaExternal _ | intoPump => exact .of_normalized rfl rfl rfl
  | _ => exact ⟨h.dir, h.phi_lo, h.phi_hi, h.theta_lo, h.theta_hi⟩

/-- hence after **every** finite history of mutations: azimuth in `[0,2π)`, polar angle in
`(−π,π]`, direction `= (sinθ cosφ, sinθ sinφ, cosθ)`, a unit vector -/
theorem inv_history (pol : Pol) (φ θ lam : ℝ) (w : Waist ℝ) (ops : List (Op ℝ)) :
    let b := Beam.run (Beam.new pol φ θ lam w) ops
    Inv b ∧ b.direction.normSq = 1 ∧
      b.direction = ⟨Real.sin b.theta * Real.cos b.phi, Real.sin b.theta * Real.sin b.phi, Real.cos b.theta⟩ := by
  intro b
  have h : Inv b := List.foldlRecOn ops step (inv_new pol φ θ lam w) fun b0 h o _ => inv_step b0 h o
  refine ⟨h, ?_, ?_⟩
  · rw [h.dir]; exact polarVector_normSq _ _
  · rw [h.dir]; rfl

/-- after any history both angles are congruent modulo 2π to the values last requested (for
`set_theta_external` the requested internal angle is the solver's result; the azimuth is kept) -/
theorem angles_last_requested (pol : Pol) (φ θ lam : ℝ) (w : Waist ℝ) (ops : List (Op ℝ)) :
    let b := Beam.run (Beam.new pol φ θ lam w) ops
    (∃ k : ℤ, b.phi = (requested φ θ ops).1 + k * (2 * Real.pi)) ∧
    (∃ k : ℤ, b.theta = (requested φ θ ops).2 + k * (2 * Real.pi)) := by
  intro b
  exact List.foldl_rel (f := step) (g := reqStep) (a := Beam.new pol φ θ lam w) (b := (φ, θ))
    (r := fun b r => Cong b.phi r.1 ∧ Cong b.theta r.2)
    ⟨(normalizeAngle_spec φ).2.2, (normalizeAngleSigned_spec θ).2.2⟩
    fun o _ b r h => cong_step b r h.1 h.2 o

/-- a pump converted from any beam points along `z` -/
theorem pump_points_z (b : Beam ℝ) : (step b .intoPump).direction = ⟨0, 0, 1⟩ :=
  step_intoPump_direction b

/-! ### T3 — Snell -/

/-- forward Snell: `sin θ_e = n(θ_i)·sin θ_i` whenever the right-hand side is a sine -/
theorem snell_forward (n : Vec3 ℝ) (cθ cφ φ : ℝ) (pol : Pol) (θi : ℝ)
    (h : -1 ≤ indexAlong n cθ cφ (directionFromPolar φ θi) pol * Real.sin θi ∧
         indexAlong n cθ cφ (directionFromPolar φ θi) pol * Real.sin θi ≤ 1) :
    Real.sin (snellExternal n cθ cφ φ pol θi)
      = indexAlong n cθ cφ (directionFromPolar φ θi) pol * Real.sin θi := by
  simp only [snellExternal, Transc.asin, Transc.sin]
  exact Real.sin_arcsin h.1 h.2

/-- principal indices ≥ 1 ⇒ the internal angle does not exceed the external one on `[0, π/2]`
(the index along the beam is ≥ 1 by C02's bound, so `asin(n sin θ) ≥ asin(sin θ) = θ`) -/
theorem internal_le_external (n : Vec3 ℝ) (hx : 1 ≤ n.x) (hy : 1 ≤ n.y) (hz : 1 ≤ n.z)
    (cθ cφ φ : ℝ) (pol : Pol) (θi : ℝ) (h0 : 0 ≤ θi) (h1 : θi ≤ Real.pi / 2) :
    θi ≤ snellExternal n cθ cφ φ pol θi := by
  have hs : (toCrystalFrame cθ cφ (directionFromPolar φ θi)).normSq = 1 := by
    rw [toCrystalFrame_normSq, directionFromPolar_eq, polarVector_normSq]
  have hx' := one_pos.trans_le hx
  have hy' := one_pos.trans_le hy
  have hz' := one_pos.trans_le hz
  have hidx : 1 ≤ indexAlong n cθ cφ (directionFromPolar φ θi) pol := by
    rw [indexAlong, indexFromFrame_eq_spec hx' hy' hz' hs pol]
    exact indexFromFrameSpec_ge hx' hy' hz' hs pol one_pos hx hy hz
  have hsin : 0 ≤ Real.sin θi := Real.sin_nonneg_of_nonneg_of_le_pi h0 (by linarith [Real.pi_pos])
  simp only [snellExternal, Transc.asin, Transc.sin]
  calc θi = Real.arcsin (Real.sin θi) := (Real.arcsin_sin (by linarith) h1).symm
    _ ≤ _ := Real.arcsin_le_arcsin (le_mul_of_one_le_left hsin hidx)

/-- read-back reduced to the optimiser's residual: if the stored internal angle leaves a residual
`|sin θ_e − n sin θ_i| ≤ ε` and both sines stay within `sin θ_m`, `θ_m < π/2`, then reading the
external angle back is off by at most `ε / cos θ_m` -/
theorem readback_of_residual (y θe θm ε : ℝ) (h0 : 0 ≤ θe) (hem : θe ≤ θm) (hm : θm < Real.pi / 2)
    (hy1 : -Real.sin θm ≤ y) (hy2 : y ≤ Real.sin θm) (hres : |Real.sin θe - y| ≤ ε) :
    |Real.arcsin y - θe| ≤ ε / Real.cos θm := by
  have hpi := Real.pi_pos
  have hcm : 0 < Real.cos θm := Real.cos_pos_of_mem_Ioo ⟨by linarith, hm⟩
  have ha : |Real.arcsin y| ≤ θm := abs_le.mpr
    ⟨(Real.le_arcsin_iff_sin_le' ⟨by linarith, by linarith⟩).mpr (by rwa [Real.sin_neg]),
     (Real.arcsin_le_iff_le_sin' ⟨by linarith, hm⟩).mpr hy2⟩
  have hya : Real.sin (Real.arcsin y) = y :=
    Real.sin_arcsin ((neg_le_neg (Real.sin_le_one θm)).trans hy1) (hy2.trans (Real.sin_le_one θm))
  rw [le_div_iff₀ hcm, mul_comm]
  calc Real.cos θm * |Real.arcsin y - θe| ≤ |Real.sin (Real.arcsin y) - Real.sin θe| :=
        cos_mul_abs_sub_le_abs_sin_sub (by linarith) (abs_le.mpr ⟨by linarith, hem⟩) ha
    _ = |Real.sin θe - y| := by rw [hya, abs_sub_comm]
    _ ≤ ε := hres

/-! ### T4 — unit conversions, waist position -/

/-- `ω = 2πc/λ` in both directions; the two conversions are mutually inverse -/
theorem freq_wavelength_inverse (x : ℝ) (hx : x ≠ 0) :
    vacuumWavelengthToFrequency x = 2 * Real.pi * 299792458 / x ∧
    frequencyToVacuumWavelength x = 2 * Real.pi * 299792458 / x ∧
    frequencyToVacuumWavelength (vacuumWavelengthToFrequency x) = x ∧
    vacuumWavelengthToFrequency (frequencyToVacuumWavelength x) = x :=
  ⟨vacuumWavelengthToFrequency_eq x, frequencyToVacuumWavelength_eq x, wavelength_roundtrip x,
    frequency_roundtrip x⟩

theorem celsius_kelvin_inverse (x : ℝ) :
    kelvinToCelsius (celsiusToKelvin x) = x ∧ celsiusToKelvin (kelvinToCelsius x) = x := by
  simp only [kelvinToCelsius, celsiusToKelvin]
  constructor <;> ring

/-- `FWHM = 2·√(2 ln 2)·σ`, and FWHM ↔ waist are mutually inverse -/
theorem fwhm_sigma (f w : ℝ) :
    f = 2 * Real.sqrt (2 * Real.log 2) * fwhmToSigma f ∧
    waistToFwhm (fwhmToWaist f) = f ∧ fwhmToWaist (waistToFwhm w) = w := by
  have hlog : 0 < Real.log 2 := Real.log_pos one_lt_two
  have hk : Real.sqrt (2 * Real.log 2) ≠ 0 := (Real.sqrt_pos.mpr (by positivity)).ne'
  simp only [fwhmToSigma, fwhmToWaist, waistToFwhm, fwhmOverWaist, Transc.sqrt, Transc.ln, lit_two]
  refine ⟨?_, ?_, ?_⟩ <;> field_simp

/-- the automatic waist position is `−L/(2n)` with `n` the beam's index for propagation along `z` -/
theorem waist_position_def (n : Vec3 ℝ) (θ φ len : ℝ) (pol : Pol) :
    optimalWaistPosition n θ φ len pol = -len / (2 * indexAlong n θ φ ⟨0, 0, 1⟩ pol) := by
  simp only [optimalWaistPosition, lit_half, lit_zero, lit_one]
  ring

example : normalizeAngle (0 : ℝ) = 0 := normalizeAngle_zero

/-- hypotheses of `internal_le_external` and `readback_of_residual` are satisfiable -/
example : (1 / 2 : ℝ) ≤ snellExternal ⟨2, 2, 2⟩ 0 0 0 .ordinary (1 / 2) :=
  internal_le_external ⟨2, 2, 2⟩ (by norm_num) (by norm_num) (by norm_num) 0 0 0 .ordinary (1 / 2)
    (by norm_num) (by linarith [Real.pi_gt_three])

example : |Real.arcsin (Real.sin (1 / 2)) - 1 / 2| ≤ 0 / Real.cos 1 :=
  readback_of_residual (Real.sin (1 / 2)) (1 / 2) 1 0 (by norm_num) (by norm_num)
    (by linarith [Real.pi_gt_three])
    (by
      have h1 := Real.sin_pos_of_pos_of_le_one one_pos le_rfl
      have h2 := Real.sin_pos_of_pos_of_le_one (x := 1 / 2) (by norm_num) (by norm_num)
      linarith)
    (Real.sin_le_sin_of_le_of_le_pi_div_two (by linarith [Real.pi_gt_three]) (by linarith [Real.pi_gt_three]) (by norm_num))
    (by simp)

/-- a concrete history ending in `.intoPump` (the beam starts along `ẑ` and is still there at the end) -/
example : (Beam.run (Beam.new .ordinary 0 0 1e-6 ⟨1e-4, 1e-4⟩)
    [.setAngles 0 0, .setWaist 1 2, .intoPump]).direction = (⟨0, 0, 1⟩ : Vec3 ℝ) :=
  pump_points_z _

end Spdc.Props.C13
