import Spdc.Real.Auto
import Spdc.Real.ComposeAutoLemmas
/-!
# C04 — auto poling period and auto crystal angle null the longitudinal mismatch

Property theorems only (helper lemmas: `Spdc/Real/NM1D.lean`, `Spdc/Real/Auto.lean`, for the last section
`Spdc/Real/ComposeAutoLemmas.lean`).  All statements but those of the last section (`Model/ComposeAuto.lean`)
are about the ℝ-instance of `Model/NM1D.lean` / `Model/Auto.lean`, whose `Float` instance is compared
bit-for-bit with `nelder_mead_1d`, `optimum_poling_period`, `compute_sign`, `optimum_theta`.

What is *not* proved (and cannot be in general — D3/D91 are counterexamples for the angle problem):
convergence of the simplex to a zero of `Δk_z` on the non-collinear period problem and on the angle
problem.  `dkz_bound_partial` states the full clause with that convergence as an explicit hypothesis.
-/
namespace Spdc.Props.C04
open Spdc Spdc.NM1D Spdc.Auto Spdc.DeltaK Real

/-! ## T1 — the bounded optimiser -/

/-- one Nelder–Mead iteration never fails on a NaN-free cost, keeps every vertex's cost consistent
and the simplex sorted, and **the best vertex's cost never increases** -/
theorem nm_best_monotone (c : ℝ → Cost ℝ) (hc : ∀ x, c x ≠ .nan) (s : Simplex ℝ) (hs : Inv c s) :
    ∃ s', step c s = some s' ∧ Inv c s' ∧ Cost.le s'.b.f s.b.f = true := by
  obtain ⟨s', h1, h2, h3, -⟩ := step_le_reflect c hc hs
  exact ⟨s', h1, h2, h3⟩

/-- `nelder_mead_1d` on a cost that is NaN-free inside the bounds returns a value (no panic) whose
bounded cost is not above that of either seed -/
theorem nm_result_le_seeds (f : ℝ → Cost ℝ) (g0 g1 : ℝ) (maxIter : Nat) (lo hi tol : ℝ)
    (hf : ∀ x, lo ≤ x → x ≤ hi → f x ≠ .nan) :
    ∃ x, run f g0 g1 maxIter lo hi tol = .ok x ∧
      Cost.le (cost1d f lo hi x) (cost1d f lo hi g0) = true ∧
      Cost.le (cost1d f lo hi x) (cost1d f lo hi g1) = true :=
  run_spec f g0 g1 maxIter lo hi tol hf

/-- … and lies inside the bounds as soon as one seed does with a finite cost -/
theorem nm_result_in_bounds (f : ℝ → Cost ℝ) (g0 g1 : ℝ) (maxIter : Nat) (lo hi tol : ℝ)
    (hf : ∀ x, lo ≤ x → x ≤ hi → f x ≠ .nan)
    (hseed : (∃ v, cost1d f lo hi g0 = .fin v) ∨ (∃ v, cost1d f lo hi g1 = .fin v)) :
    ∃ x, run f g0 g1 maxIter lo hi tol = .ok x ∧ lo ≤ x ∧ x ≤ hi := by
  obtain ⟨x, hx, h0, h1⟩ := run_spec f g0 g1 maxIter lo hi tol hf
  rcases hseed with ⟨v, hv⟩ | ⟨v, hv⟩
  · obtain ⟨hx0, hx1, -⟩ := of_cost1d_le_fin (hv ▸ h0)
    exact ⟨x, hx, hx0, hx1⟩
  · obtain ⟨hx0, hx1, -⟩ := of_cost1d_le_fin (hv ▸ h1)
    exact ⟨x, hx, hx0, hx1⟩

/-! ## T2 — sign, length and error rules of `optimum_poling_period` -/

/-- the sign of the poling is the sign of the unpoled mismatch (`compute_sign`) -/
theorem compute_sign_iff (z : ℝ) : computeSign z = true ↔ z < 0 := by
  simp [computeSign, lit_zero]

/-- a returned period carries the sign of the unpoled `Δk_z` -/
theorem period_sign (z L v : ℝ) (cost : Bool → ℝ → Cost ℝ)
    (h : optimumPolingPeriod z cost L = .ok (Period.finite v)) :
    (v < 0 ↔ z < 0) ∧ v ≠ 0 := by
  obtain ⟨-, p, -, hp0, -, -, rfl⟩ := optimumPolingPeriod_ok h
  have hp : 0 < p := minPositive_pos.trans_le hp0
  rw [signMul_computeSign]
  split_ifs with hneg
  · simp [hneg, hp, hp.ne']
  · simp [hneg, hp.le, hp.ne']

/-- its magnitude does not exceed the crystal length — it even stays off the upper bound
(D92 repair) — and is positive -/
theorem period_le_length (z L v : ℝ) (cost : Bool → ℝ → Cost ℝ)
    (h : optimumPolingPeriod z cost L = .ok (Period.finite v)) :
    |v| ≤ L ∧ |v| < L * (1 - 1e-9) ∧ 0 < |v| := by
  obtain ⟨-, p, -, hp0, hp1, hp2, rfl⟩ := optimumPolingPeriod_ok h
  have hp : 0 < p := minPositive_pos.trans_le hp0
  rw [abs_signMul, abs_of_pos hp]
  exact ⟨hp1, hp2, hp⟩

/-- **error rule**: when the period that would null the unpoled mismatch exceeds the crystal length
by more than the seed offset (`2π/|z| − 1e-6 > L`), an error is returned — for *every* cost closure
(every point the simplex can reach is out of bounds) -/
theorem period_err_of_too_long (z L : ℝ) (cost : Bool → ℝ → Cost ℝ) (hz : z ≠ 0)
    (h : L < |2 * π / z| - 1e-6) :
    optimumPolingPeriod z cost L =
      .err "Could not determine poling period from specified values" := by
  have hd : (0 : ℝ) < 1e-6 := by norm_num
  rw [optimumPolingPeriod_of_ne hz, run_all_out hd h]
  simp [h.trans (sub_lt_self _ hd)]

/-- an exactly vanishing unpoled mismatch needs no poling: `Ok(∞)` -/
theorem period_infinite_of_zero (L : ℝ) (cost : Bool → ℝ → Cost ℝ) :
    optimumPolingPeriod 0 cost L = .ok Period.infinite := by
  simp [optimumPolingPeriod, lit_zero]

/-! ## T3 — collinear closed form -/

/-- for a collinear signal the idler is collinear for every poling (C03 `idler_collinear`), so
`Δk_z(Λ) = z − 2π/(sign z · Λ)`; its only zero `2π/|z|` is the first seed, hence (T1) the returned
period is exactly `2π/z` whenever that fits the crystal (strictly below the upper bound, cf. the D92
repair) -/
theorem collinear_period (z L : ℝ) (hz : z ≠ 0) (h0 : minPositive ≤ |2 * π / z|)
    (h2 : |2 * π / z| < L * (1 - 1e-9)) :
    optimumPolingPeriod z (collinearCost z) L = .ok (Period.finite (2 * π / z)) := by
  have hg : 0 < |2 * π / z| := minPositive_pos.trans_le h0
  have hL : 0 < L := (mul_pos_iff_of_pos_right (by norm_num)).mp (hg.trans h2)
  have h1 : |2 * π / z| ≤ L := h2.le.trans (mul_le_of_le_one_right hL.le (by norm_num))
  -- the seed, signed like `z`, is `2π/z`
  have hsg : signMul (computeSign z) |2 * π / z| = 2 * π / z := by
    rw [signMul_computeSign]
    rcases lt_or_gt_of_ne hz with h | h
    · rw [if_pos h, abs_of_neg (div_neg_of_pos_of_neg (by positivity) h), neg_neg]
    · rw [if_neg h.le.not_gt, abs_of_pos (by positivity)]
  -- the first seed is the only zero of the cost `|z − 2π/(±Λ)|`, so it is what the optimiser returns
  have hrun : run (collinearCost z (computeSign z)) |2 * π / z| (|2 * π / z| + 1e-6) 1000
      minPositive L 1e-12 = .ok |2 * π / z| := by
    refine run_eq_seed (fun x hx _ => ?_) (m := 0) ?_ fun x y hx0 _ hy hy0 => ?_
    · rw [collinearCost_eq _ (minPositive_pos.trans_le hx)]; simp
    · rw [cost1d_of_mem h0 h1, collinearCost_eq _ hg, hsg, div_div_cancel₀ (by positivity), sub_self,
        abs_zero]
    · have hx : 0 < x := minPositive_pos.trans_le hx0
      have hs : signMul (computeSign z) x ≠ 0 := signMul_ne_zero _ hx.ne'
      rw [collinearCost_eq _ hx, Cost.fin.injEq] at hy
      have hzs : z - 2 * π / signMul (computeSign z) x = 0 := abs_nonpos_iff.mp (hy ▸ hy0)
      have : signMul (computeSign z) x = 2 * π / z := by
        rw [eq_div_iff hz, mul_comm, ← eq_div_iff hs]; exact sub_eq_zero.mp hzs
      rw [← abs_of_pos hx, ← abs_signMul (computeSign z) x, this]
  have hnot : ¬ (L * (1 - 1e-9) ≤ |2 * π / z| ∨ L < |2 * π / z| ∨ |2 * π / z| < minPositive) :=
    not_or.mpr ⟨not_le.mpr h2, not_or.mpr ⟨not_lt.mpr h1, not_lt.mpr h0⟩⟩
  rw [optimumPolingPeriod_of_ne hz, hrun, Outcome.bind_ok, if_neg hnot, hsg]

/-- the closed form of the collinear mismatch used above: with every wave vector along `ẑ`,
`Δk_z(Λ) = Δk_z(off) − k_eff(Λ)` (C03's `deltaK_def`), and `collinearCost` is its absolute value -/
theorem collinear_dkz (ns ni np ws wi wp p : ℝ) (neg : Bool) (hp : 0 < p) :
    (deltaK ⟨0, 0, 1⟩ ⟨0, 0, 1⟩ ⟨0, 0, 1⟩ ns ni np ws wi wp (Poling.on p neg)).map (·.z) =
      (deltaK ⟨0, 0, 1⟩ ⟨0, 0, 1⟩ ⟨0, 0, 1⟩ ns ni np ws wi wp Poling.off).map
        (fun v => v.z - 2 * π / signMul neg p) ∧
    ∀ z, collinearCost z neg p = .fin |z - 2 * π / signMul neg p| := by
  refine ⟨?_, fun z => collinearCost_eq neg hp⟩
  rw [deltaK_eq_sub (DeltaK.kEff_on neg hp),
    deltaK_eq_sub DeltaK.kEff_off]
  simp only [Outcome.map_ok, Vec3.sub, sub_zero]

/-! ## T4 — range of the auto angle -/

/-- the auto crystal angle lies in `[0, π/2]` whenever the cost is NaN-free there and finite at the
seed `π/6` -/
theorem theta_in_range (cost : ℝ → Cost ℝ) (hf : ∀ x, 0 ≤ x → x ≤ π / 2 → cost x ≠ .nan)
    (hseed : ∃ v, cost (π / 6) = .fin v) :
    ∃ θ, optimumTheta cost = .ok θ ∧ 0 ≤ θ ∧ θ ≤ π / 2 := by
  have hpi := Real.pi_pos
  have h6 : cost1d cost 0 (π / 2) (π / 6) = cost (π / 6) :=
    cost1d_of_mem (by positivity) (by linarith)
  obtain ⟨v, hv⟩ := hseed
  obtain ⟨x, hx, h0, h1⟩ := nm_result_in_bounds cost (π / 6) (π / 6 + 1) 1000 0 (π / 2) 1e-6 hf
    (Or.inl ⟨v, by rw [h6, hv]⟩)
  refine ⟨x, ?_, h0, h1⟩
  have h60 : (6.0 : ℝ) = 6 := by norm_num
  simpa [optimumTheta, tpi, lit_zero, lit_one, lit_two, h60] using hx

/-! ## T5 — the full clause, convergence made explicit -/

/-- **full statement with the convergence hypothesis explicit** (`_partial`): if the optimiser's
result `p` has residual `|Δk_z(p)|·L/2 < 1e-3`, then the returned signed period `Λ` has that
residual, the sign of the unpoled mismatch, and magnitude at most `L`.  The hypothesis is a theorem
for collinear signals (`collinear_period`: residual exactly 0) and is searched by the S predicate
otherwise. -/
theorem dkz_bound_partial (z L v : ℝ) (dkz : Bool → ℝ → ℝ)
    (h : optimumPolingPeriod z (fun neg p => .fin |dkz neg p|) L = .ok (Period.finite v))
    (hconv : ∀ p, NM1D.run (fun p => Cost.fin |dkz (computeSign z) p|) |2 * π / z|
        (|2 * π / z| + 1e-6) 1000 minPositive L 1e-12 = .ok p →
        |dkz (computeSign z) p| * L / 2 < 1e-3) :
    |dkz (computeSign z) (abs v)| * L / 2 < 1e-3 ∧ (v < 0 ↔ z < 0) ∧ |v| ≤ L := by
  refine ⟨?_, (period_sign z L v _ h).1, (period_le_length z L v _ h).1⟩
  obtain ⟨-, p, hp, hp0, -, -, rfl⟩ := optimumPolingPeriod_ok h
  have hpos : 0 < p := minPositive_pos.trans_le hp0
  rw [abs_signMul, abs_of_pos hpos]
  exact hconv p hp

/-- `collinear_period` applies to KTP-like numbers: `z = 1.36e5 /m` (Λ = 46.2 µm), `L = 2 mm` -/
example : optimumPolingPeriod (136000 : ℝ) (collinearCost 136000) 2e-3 =
    .ok (Period.finite (2 * π / 136000)) := by
  have h := collinear_period (136000 : ℝ) 2e-3 (by norm_num)
  rw [abs_of_pos (by positivity), le_div_iff₀ (by norm_num), div_lt_iff₀ (by norm_num)] at h
  apply h
  · calc minPositive * 136000 ≤ 1e-6 * 136000 :=
          mul_le_mul_of_nonneg_right minPositive_le_micro (by norm_num)
      _ ≤ 2 * 3 := by norm_num
      _ ≤ 2 * π := mul_le_mul_of_nonneg_left pi_gt_three.le zero_le_two
  · calc 2 * π < 2 * 4 := mul_lt_mul_of_pos_left pi_lt_four two_pos
      _ < 2e-3 * (1 - 1e-9) * 136000 := by norm_num

/-- `period_err_of_too_long` applies: `z = 100 /m` needs a 6.3 cm period in a 2 mm crystal -/
example : optimumPolingPeriod (100 : ℝ) (collinearCost 100) 2e-3 =
    .err "Could not determine poling period from specified values" := by
  apply period_err_of_too_long _ _ _ (by norm_num)
  rw [abs_of_pos (by positivity)]
  linarith [pi_gt_three]

/-- the hypotheses of `theta_in_range` / `nm_result_in_bounds` are satisfiable: `|θ − 0.7|` -/
example : ∃ θ, optimumTheta (fun x : ℝ => Cost.fin |x - 0.7|) = .ok θ ∧ 0 ≤ θ ∧ θ ≤ π / 2 :=
  theta_in_range _ (fun _ _ _ => by simp) ⟨_, rfl⟩

/-! ## composed model

Above, the cost closures (`|Δk_z|` as a function of the trial period / crystal angle) are
parameters.  In `Spdc/Model/ComposeAuto.lean` they are built from the composed model — crystal angle
substituted, signal re-aimed at its external angle through the nested Snell simplex, optimum idler
recomputed per trial, `Δk_z` from the composed indices — and the optimisers run on them:
`Compose.optimumThetaB`, `Compose.optimumPolingPeriodB`.  The layer theorems lift with their
hypotheses on the cost DISCHARGED (over ℝ the composed cost is a real number wherever `λp < λs`). -/

/-- composed model: the composed `optimum_theta` returns a value in `[0, π/2]` whenever `λp < λs`
(no hypothesis on the cost left: it is NaN-free and finite at the seed `π/6`) -/
theorem compose_theta_in_range (S : Compose.Setup ℝ) (s p : Beam.Beam ℝ)
    (h : Beam.vacuumWavelength p < Beam.vacuumWavelength s) :
    ∃ θ, Compose.optimumThetaB S s p = .ok θ ∧ 0 ≤ θ ∧ θ ≤ π / 2 :=
  theta_in_range (Compose.thetaCost S s p (Compose.thetaExternal S s))
    (fun θ _ _ => Compose.thetaCost_ne_nan S s p _ θ h) (Compose.thetaCost_fin S s p _ (π / 6) h)

/-- composed model: a finite period returned by the composed `optimum_poling_period` carries the
sign of the composed unpoled mismatch `Δk_z` (with its optimum idler), is non-zero, and is shorter
than the crystal length `(1 − 10⁻⁹)·L`; when that mismatch is zero the value is `Compose.infinity`,
the model's `1.0 / 0.0`, which over ℝ is the number `0`: at this instance the clause reads
`v = 0 ↔ z = 0`, not that `+∞` is returned. -/
theorem compose_period_rules (S : Compose.Setup ℝ) (s p : Beam.Beam ℝ) (v : ℝ)
    (h : Compose.optimumPolingPeriodB S s p = .ok v) :
    ∃ z, Compose.dkzOptimum S s p .off = .ok z ∧
      ((z = 0 ∧ v = Compose.infinity) ∨
       (z ≠ 0 ∧ (v < 0 ↔ z < 0) ∧ v ≠ 0 ∧ |v| < S.L * (1 - 1e-9))) := by
  obtain ⟨z, r, hz, hr, rfl⟩ := Compose.optimumPolingPeriodB_ok h
  refine ⟨z, hz, ?_⟩
  cases r with
  | infinite =>
    left
    refine ⟨?_, rfl⟩
    by_contra hne
    rw [optimumPolingPeriod_of_ne hne] at hr
    obtain ⟨p, -, hp⟩ := Outcome.bind_eq_ok.mp hr
    split at hp <;> cases hp
  | finite w =>
    right
    have hs := period_sign z S.L w _ hr
    exact ⟨(optimumPolingPeriod_ok hr).1, hs.1, hs.2, (period_le_length z S.L w _ hr).2.1⟩

end Spdc.Props.C04
