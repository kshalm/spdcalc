import Spdc.Real.QuadRule
import Spdc.Real.Outcome
/-!
# C12 — every quadrature method returns the integral to its accuracy class, 1-D and 2-D

Statements about the executable model `Spdc/Model/Quad.lean` at the scalar `ℝ` (complex values through
`Cx.toC : Cx ℝ → ℂ`).
-/
namespace Spdc.Props.C12
open Spdc Spdc.Quad

/-- T1. Composite Simpson is exact on every complex cubic, for every interval (either orientation)
and every accepted division count: the value is `P(b) − P(a)` with `P` the antiderivative. -/
theorem simpson_exact_cubic (c0 c1 c2 c3 : Cx ℝ) (a b : ℝ) (divs : ℕ) (v : Cx ℝ)
    (h : simpson (polyEval [c0, c1, c2, c3]) a b divs = .ok v) :
    v.toC = cubicAnti c0.toC c1.toC c2.toC c3.toC b - cubicAnti c0.toC c1.toC c2.toC c3.toC a := by
  obtain ⟨d, hd, rfl⟩ := Outcome.map_eq_ok.mp h
  obtain ⟨_, _, m, hm, rfl⟩ := simpsonDivs_ok hd
  exact simpsonCore_exact (polyEval4_toC c0 c1 c2 c3) a b m (by omega)

/-- T2a. Reversing the interval negates the result (and panics for the same division counts). -/
theorem simpson_reverse (f : ℝ → Cx ℝ) (a b : ℝ) (divs : ℕ) :
    simpson f b a divs = (simpson f a b divs).map Cx.neg := by
  rw [simpson, simpson, Outcome.map_map]
  refine Outcome.map_congr fun d hd => ?_
  obtain ⟨_, _, m, hm, rfl⟩ := simpsonDivs_ok hd
  exact simpsonCore_reverse f a b m (by omega)

/-- T2b. The rule is linear in the integrand (complex coefficients). -/
theorem simpson_linear (f g : ℝ → Cx ℝ) (al be : Cx ℝ) (a b : ℝ) (divs : ℕ) (u v : Cx ℝ)
    (hf : simpson f a b divs = .ok u) (hg : simpson g a b divs = .ok v) :
    simpson (fun x => Cx.add (Cx.mul al (f x)) (Cx.mul be (g x))) a b divs
      = .ok (Cx.add (Cx.mul al u) (Cx.mul be v)) := by
  obtain ⟨d, hd, rfl⟩ := Outcome.map_eq_ok.mp hf
  obtain ⟨d', hd', rfl⟩ := Outcome.map_eq_ok.mp hg
  rw [hd] at hd'; injection hd' with hd'; subst hd'
  simp only [simpson, hd, Outcome.map_ok, simpsonCore_linear]

/-- T5a. The accepted division counts: 1-D from 5 on, 2-D from 3 on (odd counts are rounded up). -/
theorem simpson_accepts_iff (f : ℝ → Cx ℝ) (a b : ℝ) (divs : ℕ) :
    (simpson f a b divs).isOk = true ↔ 5 ≤ divs := by
  unfold simpson; rw [Outcome.map_isOk]; exact simpsonDivs_isOk divs

/-- T5a, the 2-D rule: accepted from 3 on (`divs + divs % 2 ≥ 4`). -/
theorem simpson2d_accepts_iff (f : ℝ → ℝ → Cx ℝ) (ax bx ay by_ : ℝ) (divs : ℕ) :
    (simpson2d f ax bx ay by_ divs).isOk = true ↔ 3 ≤ divs := by
  unfold simpson2d; rw [Outcome.map_isOk]; exact simpson2dDivs_isOk divs

/-- T5b. Any division count accepted for 1-D integration is accepted for 2-D integration
(holds after the `fix:` that rounds odd counts up in `simpson2d`). -/
theorem accept_1d_imp_2d (f : ℝ → Cx ℝ) (g : ℝ → ℝ → Cx ℝ) (a b ax bx ay by_ : ℝ) (divs : ℕ)
    (h : (simpson f a b divs).isOk = true) : (simpson2d g ax bx ay by_ divs).isOk = true := by
  rw [simpson_accepts_iff] at h
  rw [simpson2d_accepts_iff]; omega

/-- T5c (finding D4a). The statement's parameter domain "divisions 4–400" is **not** accepted in
1-D: `divs = 4` panics ("Steps too low") although the 2-D rule accepts it. -/
theorem simpson_domain_4_400_not_accepted :
    ¬ ∀ divs, 4 ≤ divs → divs ≤ 400 →
        (simpson (fun _ => (Cx.one : Cx ℝ)) 0 1 divs).isOk = true := by
  intro h
  have := h 4 (by omega) (by omega)
  rw [simpson_accepts_iff] at this
  omega

example : (simpson2d (fun _ _ => (Cx.one : Cx ℝ)) 0 1 0 1 4).isOk = true := by
  rw [simpson2d_accepts_iff]; omega
example : (simpson (fun _ => (Cx.one : Cx ℝ)) 0 1 50).isOk = true := by
  rw [simpson_accepts_iff]; omega

/-- T1a. `simpson_panels`: with `2m` sub-intervals the 1-4-2-…-4-1 sum of the model equals the sum
over the `m` panels of `(h/3)(f₀ + 4f₁ + f₂)`. -/
theorem simpson_panels (f : ℝ → Cx ℝ) (a b : ℝ) (m : ℕ) (hm : 1 ≤ m) :
    (simpsonCore f a b (2 * m)).toC
      = ∑ j ∈ Finset.range m,
          ((f (a + ((2 * j : ℕ) : ℝ) * ((b - a) / ((2 * m : ℕ) : ℝ)))).toC
            + 4 * (f (a + ((2 * j + 1 : ℕ) : ℝ) * ((b - a) / ((2 * m : ℕ) : ℝ)))).toC
            + (f (a + ((2 * j + 2 : ℕ) : ℝ) * ((b - a) / ((2 * m : ℕ) : ℝ)))).toC)
          * ((((b - a) / ((2 * m : ℕ) : ℝ)) / 3 : ℝ) : ℂ) := by
  rw [simpsonCore_toC,
    weighted_eq_panels (fun i => (f (a + (i : ℝ) * ((b - a) / ((2 * m : ℕ) : ℝ)))).toC) m hm,
    Finset.sum_mul]

/-- T1b. The closed form of `simpson_exact_cubic` *is* the integral: composite Simpson returns
`∫ₐᵇ p` for every complex cubic `p`. -/
theorem simpson_exact_cubic_integral (c0 c1 c2 c3 : Cx ℝ) (a b : ℝ) (divs : ℕ) (v : Cx ℝ)
    (h : simpson (polyEval [c0, c1, c2, c3]) a b divs = .ok v) :
    v.toC = ∫ x in a..b, (polyEval [c0, c1, c2, c3] x).toC := by
  rw [simpson_exact_cubic c0 c1 c2 c3 a b divs v h]
  simp only [polyEval4_toC]
  exact (integral_cubic _ _ _ _ a b).symm

/-- T2c. Separability: the 2-D rule on `g(x)·h(y)` is the product of the 1-D rules with the same
number of sub-intervals (the 1-D entry point `simpson` reaches that number with `divs + 2`, because
it uses `divs + divs % 2 − 2` sub-intervals where `simpson2d` uses `divs + divs % 2`). -/
theorem simpson2d_separable (g h : ℝ → Cx ℝ) (ax bx ay by_ : ℝ) (divs : ℕ) (v : Cx ℝ)
    (hv : simpson2d (fun x y => Cx.mul (g x) (h y)) ax bx ay by_ divs = .ok v) :
    ∃ u w, simpson g ax bx (divs + divs % 2 + 2) = .ok u ∧ simpson h ay by_ (divs + divs % 2 + 2) = .ok w
      ∧ v.toC = u.toC * w.toC := by
  obtain ⟨d, hd, rfl⟩ := Outcome.map_eq_ok.mp hv
  obtain ⟨_, hdd, m, hm, rfl⟩ := simpson2dDivs_ok hd
  have hdivs : simpsonDivs (divs + divs % 2 + 2) = .ok (2 * m) := by
    rw [simpsonDivs_of_ge (by omega)]
    congr 1; omega
  refine ⟨simpsonCore g ax bx (2 * m), simpsonCore h ay by_ (2 * m), ?_, ?_, ?_⟩
  · rw [simpson, hdivs, Outcome.map_ok]
  · rw [simpson, hdivs, Outcome.map_ok]
  · rw [simpson2dCore_sep, Cx.toC_mul']

/-- T2d. The 2-D rule is exact on every bi-cubic polynomial `Σ c_ij xⁱ yʲ` (rows = powers of `y`),
every rectangle, every accepted division count. -/
theorem simpson2d_exact_bicubic (r0 r1 r2 r3 : Cx ℝ × Cx ℝ × Cx ℝ × Cx ℝ) (ax bx ay by_ : ℝ) (divs : ℕ)
    (v : Cx ℝ)
    (hv : simpson2d (poly2Eval [[r0.1, r0.2.1, r0.2.2.1, r0.2.2.2], [r1.1, r1.2.1, r1.2.2.1, r1.2.2.2],
        [r2.1, r2.2.1, r2.2.2.1, r2.2.2.2], [r3.1, r3.2.1, r3.2.2.1, r3.2.2.2]]) ax bx ay by_ divs = .ok v) :
    v.toC = cubicAnti (rowAnti r0 ax bx) (rowAnti r1 ax bx) (rowAnti r2 ax bx) (rowAnti r3 ax bx) by_
        - cubicAnti (rowAnti r0 ax bx) (rowAnti r1 ax bx) (rowAnti r2 ax bx) (rowAnti r3 ax bx) ay := by
  obtain ⟨d, hd, rfl⟩ := Outcome.map_eq_ok.mp hv
  obtain ⟨_, _, m, hm, rfl⟩ := simpson2dDivs_ok hd
  have hm1 : 1 ≤ m := by omega
  rw [simpson2dCore_iter]
  refine simpsonCore_exact (fun y => ?_) ay by_ m hm1
  -- for fixed `y` the integrand is a cubic in `x` whose coefficients are cubics in `y`
  rw [simpsonCore_exact (fun x => poly2Eval44_toC r0 r1 r2 r3 x y) ax bx m hm1]
  simp only [cubic, cubicAnti, rowAnti]
  ring

/-- T3a. `rule_exact_of_moments`: a rule whose nodes/weights reproduce the moments of `[−1,1]` up to
degree `m` integrates every complex polynomial with at most `m+1` coefficients exactly on every
interval (real and imaginary parts, as `Integrator::GaussLegendre` computes them); the n-point
Gauss–Legendre rule has `m = 2n − 1`. -/
theorem rule_exact_of_moments (nodes weights : List ℝ) (m : ℕ)
    (hmom : ∀ k, k ≤ m → ruleMoment nodes weights k = (1 - (-1) ^ (k + 1)) / ((k : ℝ) + 1))
    (cs : List (Cx ℝ)) (hcs : cs.length ≤ m + 1) (a b : ℝ) :
    (ruleApply nodes weights (polyEval cs) a b).re = ∫ x in a..b, (polyEval cs x).re
      ∧ (ruleApply nodes weights (polyEval cs) a b).im = ∫ x in a..b, (polyEval cs x).im := by
  have hmom' : ∀ k, k ≤ m → ruleMoment nodes weights k = ∫ x in (-1 : ℝ)..1, x ^ k :=
    fun k hk => by rw [hmom k hk, integral_pow, one_pow]
  have hex (g : Cx ℝ → ℝ) := ruleApplyR_exact nodes weights m hmom' _
    ((listPoly_natDegree (cs.map g)).trans (by rw [List.length_map]; omega)) a b
  simp only [ruleApply, polyEval_eq]
  exact ⟨hex Cx.re, hex Cx.im⟩

/-- T3b. Within its degree class such a rule negates under reversal of the interval. -/
theorem rule_reverse_of_moments (nodes weights : List ℝ) (m : ℕ)
    (hmom : ∀ k, k ≤ m → ruleMoment nodes weights k = (1 - (-1) ^ (k + 1)) / ((k : ℝ) + 1))
    (cs : List (Cx ℝ)) (hcs : cs.length ≤ m + 1) (a b : ℝ) :
    ruleApply nodes weights (polyEval cs) b a = Cx.neg (ruleApply nodes weights (polyEval cs) a b) := by
  obtain ⟨h1, h2⟩ := rule_exact_of_moments nodes weights m hmom cs hcs a b
  obtain ⟨h3, h4⟩ := rule_exact_of_moments nodes weights m hmom cs hcs b a
  apply Cx.toC_injective
  apply Complex.ext
  · rw [Cx.toC_re, h3, intervalIntegral.integral_symm, ← h1]; rfl
  · rw [Cx.toC_im, h4, intervalIntegral.integral_symm, ← h2]; rfl

/-- T3c. Every node/weight rule is linear in the integrand and its nested 2-D form is separable. -/
theorem rule_linear_separable (nodes weights : List ℝ) (f g : ℝ → Cx ℝ) (al be : Cx ℝ) (a b c d : ℝ) :
    ruleApply nodes weights (fun x => Cx.add (Cx.mul al (f x)) (Cx.mul be (g x))) a b
        = Cx.add (Cx.mul al (ruleApply nodes weights f a b)) (Cx.mul be (ruleApply nodes weights g a b))
      ∧ ruleApply2d nodes weights (fun x y => Cx.mul (f x) (g y)) a b c d
        = Cx.mul (ruleApply nodes weights f a b) (ruleApply nodes weights g c d) := by
  -- `ruleApply` is the real rule `ruleApplyR` on the real and on the imaginary part, and `ruleApplyR` is linear
  constructor
  · simp only [ruleApply, Cx.add, Cx.mul, ruleApplyR_add, ruleApplyR_sub, ruleApplyR_smul]
  · simp only [ruleApply2d, ruleApply, Cx.mul, ruleApplyR_add, ruleApplyR_sub, ruleApplyR_smul,
      ruleApplyR_mul_const]

/-- T4a. `asr_exact_cubic`: adaptive Simpson returns the exact integral of every complex cubic, for
every interval, every tolerance (even non-positive) and every `max_depth`. -/
theorem asr_exact_cubic (c0 c1 c2 c3 : Cx ℝ) (a b eps : ℝ) (depth : ℕ) :
    (simpsonAdaptive (polyEval [c0, c1, c2, c3]) a b eps depth).toC
      = ∫ x in a..b, (polyEval [c0, c1, c2, c3] x).toC := by
  have hf := polyEval4_toC c0 c1 c2 c3
  simp only [simpsonAdaptive, quadSimpsonsMem_mid, hf, integral_cubic]
  exact quadAsr_exact hf _ _ (quadSimpsonsMem_val_exact hf a b)

/-- T4b. `asr_reverse` (holds after the `fix:` that uses the signed width): reversing the interval
negates the result, for every integrand. -/
theorem asr_reverse (f : ℝ → Cx ℝ) (a b eps : ℝ) (depth : ℕ) :
    simpsonAdaptive f b a eps depth = Cx.neg (simpsonAdaptive f a b eps depth) := by
  simp only [simpsonAdaptive, quadSimpsonsMem_mid, quadSimpsonsMem_val_rev f a (f a) b (f b), add_comm b a]
  exact quadAsr_reverse ..

/-- T4c. `asr_evals_le`: the recursion makes at most `2^(max_depth+1) + 1` integrand evaluations —
termination within the fuel (the model's count is tied to the real call count by the `adaptive` op). -/
theorem asr_evals_le (f : ℝ → Cx ℝ) (a b eps : ℝ) (depth : ℕ) :
    simpsonAdaptiveEvals f a b eps depth ≤ 2 ^ (depth + 1) + 1 := by
  have := quadAsrEvals_le f a (f a) b (f b) eps (quadSimpsonsMem f a (f a) b (f b)).2.2
    (quadSimpsonsMem f a (f a) b (f b)).1 (quadSimpsonsMem f a (f a) b (f b)).2.1 depth
  simp only [simpsonAdaptiveEvals]
  -- `3 + E` (the evaluations `f a`, `f b`, `f m`, then the recursion's `E`) with `E + 2 ≤ 2^(depth+1)`
  omega

/-- T4d (DESIGN §3's `asr_linear`) in the form that is true of an adaptive rule: scaling the integrand
by a non-zero complex constant `c` and the tolerance by `|c|` scales the result by `c`; additivity holds
on the degree class by `asr_exact_cubic` (for general integrands the subdivision trees differ). -/
theorem asr_homogeneous (f : ℝ → Cx ℝ) (c : Cx ℝ) (hc : 0 < Cx.abs c) (a b eps : ℝ) (depth : ℕ) :
    simpsonAdaptive (fun x => Cx.mul c (f x)) a b (Cx.abs c * eps) depth
      = Cx.mul c (simpsonAdaptive f a b eps depth) := by
  simp only [simpsonAdaptive, quadSimpsonsMem_mid, quadSimpsonsMem_val_scale]
  exact quadAsr_scale f c hc ..

/-- the hypothesis `hc` of `asr_homogeneous` holds for `c = 3 + 4i` -/
example : (0 : ℝ) < Cx.abs (⟨3, 4⟩ : Cx ℝ) := by
  show 0 < Real.sqrt (3 * 3 + 4 * 4)
  apply Real.sqrt_pos.mpr; norm_num
/-- non-vacuity of the moment hypothesis: the 2-point rule with nodes `±1/2`, weights 1, reproduces
the moments `k = 0, 1` (`m = 1`) -/
example : ∀ k, k ≤ 1 → ruleMoment [-(1 / 2 : ℝ), 1 / 2] [1, 1] k = (1 - (-1) ^ (k + 1)) / ((k : ℝ) + 1) := by
  intro k hk
  interval_cases k <;> norm_num [ruleMoment_real]

end Spdc.Props.C12
