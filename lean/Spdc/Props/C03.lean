import Spdc.Real.DeltaK
import Spdc.Real.ComposeLemmas
/-!
# C03 — phase mismatch is `kp − ks − ki − kΛ`; the optimum idler conserves energy and momentum

Property theorems only (helper lemmas: `Spdc/Real/DeltaK.lean`, for the last section
`Spdc/Real/ComposeLemmas.lean`).  All statements but those of the last section (the composed model) are
about the ℝ-instance of `Spdc/Model/DeltaK.lean`, whose `Float` instance is compared with `spdcalc::delta_k` /
`IdlerBeam::try_new_optimum` on every check (accepted: 4 ulp on the idler fields, 10⁻¹² relative on
`Δk`; observed: bit-for-bit).  The refractive indices `n_p, n_s, n_i` are inputs (C01/C02's layer).
-/
namespace Spdc.Props.C03
open Spdc Spdc.DeltaK Real

/-! ## T1 — definition of the mismatch -/

/-- `delta_k = kp − ks − ki − k_eff ẑ`, each wave vector `n ω / c` along its direction -/
theorem deltaK_def (ds di dp : Vec3 ℝ) (ns ni np ws wi wp : ℝ) (pp : Poling ℝ) (ke : ℝ)
    (h : kEff pp = .ok ke) :
    deltaK ds di dp ns ni np ws wi wp pp = .ok
      ⟨np * wp / c0 * dp.x - ns * ws / c0 * ds.x - ni * wi / c0 * di.x,
       np * wp / c0 * dp.y - ns * ws / c0 * ds.y - ni * wi / c0 * di.y,
       np * wp / c0 * dp.z - ns * ws / c0 * ds.z - ni * wi / c0 * di.z - ke⟩ := by
  rw [deltaK_eq_sub h]
  simp only [wavevector, Vec3.sub, Vec3.smul, sub_zero]

/-- zero without poling -/
theorem kEff_off : kEff (Poling.off : Poling ℝ) = .ok 0 := DeltaK.kEff_off

/-- `2π/Λ` carrying the poling sign -/
theorem kEff_on_pos (p : ℝ) (hp : 0 < p) :
    kEff (Poling.on p false) = .ok (2 * π / p) ∧ kEff (Poling.on p true) = .ok (-(2 * π / p)) := by
  constructor
  · rw [DeltaK.kEff_on false hp, signMul_eq]; simp
  · rw [DeltaK.kEff_on true hp, signMul_eq]; simp [div_neg]

/-- the mismatch is a value (no panic) exactly for positive stored periods -/
theorem deltaK_panic_iff (ds di dp : Vec3 ℝ) (ns ni np ws wi wp p : ℝ) (neg : Bool) :
    (deltaK ds di dp ns ni np ws wi wp (Poling.on p neg)).isPanic = true ↔ p ≤ 0 := by
  unfold deltaK
  rw [Outcome.map_isPanic]
  by_cases hp : 0 < p
  · rw [DeltaK.kEff_on neg hp]
    exact ⟨fun h => (nomatch h), fun h => absurd hp (not_lt.mpr h)⟩
  · exact ⟨fun _ => not_lt.mp hp, kEff_on_nonpos neg⟩

/-! ## T2 — energy, polarization, azimuth, waist -/

/-- `1/λ_i = 1/λ_p − 1/λ_s` (the idler's `vacuum_wavelength()`) -/
theorem idler_energy (i : IdlerIn ℝ) (o : IdlerOut ℝ) (h : optimumIdler i = .ok o)
    (hlp : 0 < i.lp) :
    1 / wavelengthOfFreq o.omega = 1 / i.lp - 1 / i.ls := by
  obtain ⟨hlt, rfl⟩ := optimumIdler_ok h
  have hls : i.ls ≠ 0 := (hlp.trans hlt).ne'
  have hd : i.ls - i.lp ≠ 0 := (sub_pos.mpr hlt).ne'
  show 1 / wavelengthOfFreq (freqOfWavelength (idlerLambda i.ls i.lp)) = _
  rw [wavelength_freq_roundtrip, idlerLambda]
  field_simp

/-- the polarization dictated by the phase-matching type (third letter of `p → s i`) -/
theorem idler_polarization (i : IdlerIn ℝ) (o : IdlerOut ℝ) (h : optimumIdler i = .ok o) :
    o.pol = i.pm.idlerPol ∧
      (o.pol = Pol.e ↔ (i.pm = PMType.t0_e_ee ∨ i.pm = PMType.t2_e_oe)) := by
  obtain ⟨-, rfl⟩ := optimumIdler_ok h
  refine ⟨rfl, ?_⟩
  cases hpm : i.pm <;> simp [PMType.idlerPol]

/-- azimuth opposite to the signal's: `φ_i ≡ φ_s + π (mod 2π)`, normalised to `[0, 2π)` -/
theorem idler_phi (i : IdlerIn ℝ) (o : IdlerOut ℝ) (h : optimumIdler i = .ok o) :
    (∃ n : ℤ, o.phi = i.phiS + π - 2 * π * n) ∧ 0 ≤ o.phi ∧ o.phi < 2 * π := by
  obtain ⟨-, rfl⟩ := optimumIdler_ok h
  obtain ⟨n1, h1, -, -⟩ := normalizeAngle_spec (i.phiS + π)
  obtain ⟨n2, h2, h3, h4⟩ := normalizeAngle_spec (normalizeAngle (i.phiS + π))
  refine ⟨⟨n1 + n2, ?_⟩, h3, h4⟩
  show normalizeAngle (normalizeAngle (i.phiS + π)) = _
  rw [h2, h1]; push_cast; ring

/-- the signal's waist -/
theorem idler_waist (i : IdlerIn ℝ) (o : IdlerOut ℝ) (h : optimumIdler i = .ok o) :
    o.wx = i.wx ∧ o.wy = i.wy := by
  obtain ⟨-, rfl⟩ := optimumIdler_ok h
  exact ⟨rfl, rfl⟩

/-! ## T3 — momentum -/

/-- the radicand of `try_new_optimum` is `‖(λ_s/2π)(kp − ks − kΛ ẑ)‖²` -/
theorem arg_eq_closing_norm_sq (ns np ls lp thetaS phiS : ℝ) (pp : Poling ℝ) :
    idlerArg ns np ls lp thetaS pp = (closingScaled ns np ls lp thetaS phiS pp).normSq := by
  simp only [idlerArg, closingScaled, Vec3.normSq, Vec3.dot, tsin, tcos, lit_two]
  linear_combination (-(ns ^ 2)) * Real.sin_sq_add_cos_sq thetaS +
    (-(ns ^ 2 * Real.sin thetaS ^ 2)) * Real.sin_sq_add_cos_sq phiS

/-- `closingScaled` really is `(λ_s/2π)(kp − ks − kΛ ẑ)` for a pump along `ẑ` with
`ω = 2πc/λ` and the signal along `(θ_s, φ_s)` -/
theorem closingScaled_eq (ns np ls lp thetaS phiS : ℝ) (pp : Poling ℝ) (ke : ℝ)
    (hls : ls ≠ 0) (hlp : lp ≠ 0) (hke : kEff pp = .ok ke) :
    let ks := wavevector (dirFromPolar phiS thetaS) ns (freqOfWavelength ls)
    let kp := wavevector ⟨0, 0, 1⟩ np (freqOfWavelength lp)
    closingScaled ns np ls lp thetaS phiS pp =
      Vec3.smul (ls / (2 * π)) (Vec3.sub (Vec3.sub kp ks) ⟨0, 0, ke⟩) := by
  have hc : (c0 : ℝ) ≠ 0 := c0_pos.ne'
  have hpi : (π : ℝ) ≠ 0 := Real.pi_ne_zero
  have hk := kEff_eq_kpp hls pp hke
  simp only [closingScaled, wavevector, dirFromPolar_eq, freqOfWavelength_eq, Vec3.smul, Vec3.sub,
    tsin, tcos, hk, Vec3.mk.injEq]
  refine ⟨?_, ?_, ?_⟩ <;> field_simp <;> ring

/-- **momentum conservation**: forward signal of either sign (`|θ_s| < π/2`), no
counter-propagation, closing vector `c` pointing forward (`c_z ≥ 0`, `c ≠ 0`): the idler's direction
is exactly `c/‖c‖` -/
theorem idler_parallel_closing (i : IdlerIn ℝ) (o : IdlerOut ℝ) (h : optimumIdler i = .ok o)
    (hcp : i.cp = false) (h0 : -(π / 2) < i.thetaS) (h1 : i.thetaS < π / 2)
    (hz : 0 ≤ (closingScaled i.ns i.np i.ls i.lp i.thetaS i.phiS i.pp).z)
    (hc : 0 < (closingScaled i.ns i.np i.ls i.lp i.thetaS i.phiS i.pp).normSq) :
    o.dir = Vec3.smul (1 / Real.sqrt (closingScaled i.ns i.np i.ls i.lp i.thetaS i.phiS i.pp).normSq)
      (closingScaled i.ns i.np i.ls i.lp i.thetaS i.phiS i.pp) := by
  obtain ⟨-, rfl⟩ := optimumIdler_ok h
  -- ‖c‖² = (n_s sin θ_s)² + c_z², so the idler's polar angle is that of `(n_s sin θ_s, c_z)`
  have hcn : Real.sqrt (closingScaled i.ns i.np i.ls i.lp i.thetaS i.phiS i.pp).normSq ^ 2 =
      (i.ns * Real.sin i.thetaS) ^ 2 +
        (closingScaled i.ns i.np i.ls i.lp i.thetaS i.phiS i.pp).z ^ 2 := by
    rw [Real.sq_sqrt hc.le]
    simp only [closingScaled, Vec3.normSq, Vec3.dot, tsin, tcos]
    linear_combination (i.ns ^ 2 * Real.sin i.thetaS ^ 2) * Real.sin_sq_add_cos_sq i.phiS
  simp only [IdlerOut.dir, dirFromPolar_normalizeAngle, idlerTheta_forward hcp h0 h1,
    arg_eq_closing_norm_sq i.ns i.np i.ls i.lp i.thetaS i.phiS i.pp]
  -- `closingScaled` unfolds to `(−a cos φ_s, −a sin φ_s, c_z)` with `a = n_s sin θ_s`
  exact dirFromPolar_add_pi_arcsin i.phiS hz (Real.sqrt_pos.mpr hc) hcn

/-- a collinear signal yields a collinear idler (for every poling) -/
theorem idler_collinear (i : IdlerIn ℝ) (o : IdlerOut ℝ) (h : optimumIdler i = .ok o)
    (hcp : i.cp = false) (hth : i.thetaS = 0) :
    o.theta = 0 ∧ o.dir = ⟨0, 0, 1⟩ := by
  obtain ⟨-, rfl⟩ := optimumIdler_ok h
  have h0 : normalizeAngleSigned (idlerThetaRaw i) = 0 := by
    rw [idlerTheta_forward hcp (hth ▸ neg_lt_zero.mpr pi_div_two_pos) (hth ▸ pi_div_two_pos), hth]
    simp
  exact ⟨h0, by simp [IdlerOut.dir, dirFromPolar_eq, h0]⟩

/-- the residual mismatch is parallel to the idler: with the idler along `c/‖c‖`,
`Δk = (‖kp − ks − kΛ ẑ‖ − n_i ω_i / c) · dir_i` -/
theorem deltaK_parallel_idler (i : IdlerIn ℝ) (o : IdlerOut ℝ) (h : optimumIdler i = .ok o)
    (hcp : i.cp = false) (h0 : -(π / 2) < i.thetaS) (h1 : i.thetaS < π / 2)
    (hlp : 0 < i.lp)
    (hz : 0 ≤ (closingScaled i.ns i.np i.ls i.lp i.thetaS i.phiS i.pp).z)
    (hc : 0 < (closingScaled i.ns i.np i.ls i.lp i.thetaS i.phiS i.pp).normSq)
    (ke : ℝ) (hke : kEff i.pp = .ok ke) (ni wi : ℝ) :
    deltaK (dirFromPolar i.phiS i.thetaS) o.dir ⟨0, 0, 1⟩ i.ns ni i.np
        (freqOfWavelength i.ls) wi (freqOfWavelength i.lp) i.pp =
      .ok (Vec3.smul
        (2 * π / i.ls * Real.sqrt (closingScaled i.ns i.np i.ls i.lp i.thetaS i.phiS i.pp).normSq
          - ni * wi / c0) o.dir) := by
  have hls : i.ls ≠ 0 := (hlp.trans (optimumIdler_ok h).1).ne'
  have hpar := idler_parallel_closing i o h hcp h0 h1 hz hc
  have hcl := closingScaled_eq i.ns i.np i.ls i.lp i.thetaS i.phiS i.pp ke hls hlp.ne' hke
  have hab : 2 * π / i.ls * (i.ls / (2 * π)) = 1 := by
    have := Real.pi_ne_zero; field_simp
  -- `kp − ks − k_Λ ẑ = (2π/λ_s) c` is parallel to the idler; so is what is left after `k_i`
  rw [deltaK_eq_sub hke,
    ← sub_smul_of_parallel hab (Real.sqrt_pos.mpr hc).ne' hcl hpar (ni * wi / c0)]
  simp only [wavevector, Vec3.sub, Vec3.smul, Outcome.ok.injEq, Vec3.mk.injEq]
  refine ⟨?_, ?_, ?_⟩ <;> ring

/-! ## T4 — error -/

/-- an idler is refused exactly when the signal wavelength is not longer than the pump's;
the function never panics -/
theorem idler_err_iff (i : IdlerIn ℝ) :
    ((∃ m, optimumIdler i = .err m) ↔ i.ls ≤ i.lp) ∧ (optimumIdler i).isPanic = false := by
  refine ⟨⟨fun ⟨m, hm⟩ => ?_, fun hle => ⟨_, optimumIdler_of_le hle⟩⟩, np_optimumIdler i⟩
  by_contra hlt
  rw [optimumIdler_of_lt (not_le.mp hlt)] at hm
  cases hm

/-- a concrete non-collinear, poled configuration satisfying the hypotheses of
`idler_parallel_closing` (BBO-like indices, 775 → 1550 nm, θ_s = −0.1, φ_s = 1, Λ = −20 µm) -/
example : ∃ i : IdlerIn ℝ, i.cp = false ∧ -(π / 2) < i.thetaS ∧ i.thetaS < π / 2 ∧ i.lp < i.ls ∧
    i.thetaS < 0 ∧ (∃ ke, kEff i.pp = .ok ke) ∧
    0 ≤ (closingScaled i.ns i.np i.ls i.lp i.thetaS i.phiS i.pp).z ∧
    0 < (closingScaled i.ns i.np i.ls i.lp i.thetaS i.phiS i.pp).normSq := by
  have ht : (0 : ℝ) < 0.1 := by norm_num
  have hh : (0.1 : ℝ) < π / 2 :=
    lt_trans (by norm_num) (div_lt_div_of_pos_right pi_gt_three two_pos)
  have hz : (0 : ℝ) < (closingScaled (1.6 : ℝ) 1.65 1550e-9 775e-9 (-0.1) 1 (.on 20e-6 true)).z := by
    simp only [closingScaled, kpp, signMul_eq, tcos, if_true]
    calc (0 : ℝ) < 1.65 * (1550e-9 / 775e-9) - 1.6 * 1 - 1550e-9 / -20e-6 := by norm_num
      _ ≤ _ := by gcongr; exact cos_le_one _
  exact ⟨⟨.t2_e_eo, false, 1550e-9, 775e-9, 1.6, 1.65, -0.1, 1, .on 20e-6 true, 1e-4, 1e-4⟩,
    rfl, neg_lt_neg hh, (neg_lt_self ht).trans hh, by norm_num, neg_lt_zero.mpr ht,
    ⟨_, DeltaK.kEff_on true (by norm_num)⟩, hz.le,
    add_pos_of_nonneg_of_pos (add_nonneg (mul_self_nonneg _) (mul_self_nonneg _)) (mul_pos hz hz)⟩

/-! ## composed model

The theorems above take the refractive indices as inputs.  The theorems below are about the COMPOSED
model (`Spdc/Model/Compose.lean`), whose only inputs are the primitive setup `Compose.Setup`: the
indices are computed by the crystal layer (Sellmeier) and the index layer (Fresnel quadratic along the
beam direction in the crystal frame), the directions by the beam layer, `k_eff` by the poling layer.
Assumptions: the idler beam exists (`idlerBeam S = .ok i`: always for an explicit idler, `λ_p < λ_s`
for `"auto"`), `k_eff` does not panic (positive stored period). -/

/-- composed model, T1 lifted: `spdc.delta_k(ω_s, ω_i)` computed from the primitives is
`k_p − k_s − k_i − k_Λ ẑ` with every wave vector `n ω / c` along the beam's direction, the `n`'s being
the COMPOSED direction-dependent indices `index_along(get_indices(2πc/ω, T), θ_c, φ_c, dir, pol)`;
the pump points along `ẑ` and is evaluated at its own centre frequency `2πc/λ_p`. -/
theorem compose_deltaK_def (S : Compose.Setup ℝ) (i : Beam.Beam ℝ) (hi : Compose.idlerBeam S = .ok i)
    (ke : ℝ) (hk : Compose.kEff S = .ok ke) (ωs ωi : ℝ) :
    let s := Compose.signalBeam S
    let p := Compose.pumpBeam S
    let ωp := 2 * π * 299792458 / S.lamP
    let ns := Compose.refractiveIndex S s ωs
    let ni := Compose.refractiveIndex S i ωi
    let np := Compose.refractiveIndex S p ωp
    Compose.deltaK S ωs ωi = .ok
        ⟨-(ns * ωs / c0 * s.direction.x) - ni * ωi / c0 * i.direction.x,
         -(ns * ωs / c0 * s.direction.y) - ni * ωi / c0 * i.direction.y,
         np * ωp / c0 - ns * ωs / c0 * s.direction.z - ni * ωi / c0 * i.direction.z - ke⟩
      ∧ Compose.deltaK S ωs ωi = .ok
        (Vec3.sub (Vec3.sub (Vec3.sub (Compose.wavevector S p ωp) (Compose.wavevector S s ωs))
          (Compose.wavevector S i ωi)) ⟨0, 0, ke⟩) := by
  intro s p ωp ns ni np
  have h2 : Compose.deltaK S ωs ωi = .ok
      (Vec3.sub (Vec3.sub (Vec3.sub (Compose.wavevector S p ωp) (Compose.wavevector S s ωs))
        (Compose.wavevector S i ωi)) ⟨0, 0, ke⟩) := by
    unfold Compose.deltaK
    rw [hi, Outcome.bind_ok, deltaK_eq_sub (Compose.kEff_ppDK.mpr hk),
      show (Compose.pumpBeam S).frequency = ωp from Compose.omegaP_formula S]
    rfl
  refine ⟨?_, h2⟩
  rw [h2]
  simp only [Compose.wavevector, wavevector, Vec3.sub, Vec3.smul,
    show p.direction = ⟨0, 0, 1⟩ from Compose.pump_direction S, mul_zero, mul_one, zero_sub, sub_zero]
  rfl

/-- composed model, T2 lifted: for `"idler": "auto"` the idler computed by the composition conserves
energy in terms of the PRIMITIVE wavelengths, `1/λ_i = 1/λ_p − 1/λ_s`, equivalently
`ω_i + ω_s = ω_p`; it has the polarization of the PM table and keeps the configured idler waist. -/
theorem compose_idler_energy (S : Compose.Setup ℝ) (h : S.idlerAuto = true) (i : Beam.Beam ℝ)
    (hi : Compose.idlerBeam S = .ok i) (hp : 0 < S.lamP) (hs : 0 < S.sig.lam) :
    1 / Beam.vacuumWavelength i = 1 / S.lamP - 1 / S.sig.lam
      ∧ i.frequency + (Compose.signalBeam S).frequency = Compose.omegaP S
      ∧ i.polarization = Compose.polIndex S.pm.idlerPol
      ∧ i.waist.x = S.idl.wx ∧ i.waist.y = S.idl.wy := by
  obtain ⟨o, ho, rfl⟩ := Compose.idlerBeam_auto S h i hi
  have hlp : (Compose.idlerIn S).lp = S.lamP := Compose.pump_wavelength S
  have hls : (Compose.idlerIn S).ls = S.sig.lam := Compose.signal_wavelength S
  have he := idler_energy (Compose.idlerIn S) o ho (by rw [hlp]; exact hp)
  rw [hlp, hls, Compose.wavelengthOfFreq_units] at he
  obtain ⟨hlt, ho'⟩ := optimumIdler_ok ho
  rw [hlp, hls] at hlt
  refine ⟨he, ?_, ?_, rfl, rfl⟩
  · show o.omega + _ = _
    rw [ho']
    simp only [hlp, hls, Compose.signal_frequency, Compose.omegaP_eq, ← Compose.freqOfWavelength_units,
      freqOfWavelength_eq, idlerLambda]
    have hd : S.sig.lam - S.lamP ≠ 0 := (sub_pos.mpr hlt).ne'
    field_simp
    ring
  · show Compose.polOfDK o.pol = _
    rw [ho']
    exact Compose.pmDK_idlerPol S.pm

/-- non-vacuity of the composed statements: a poled setup with an `"auto"` idler -/
def exAuto : Compose.Setup ℝ where
  crystal := .KTP
  cTheta := 1.5
  cPhi := 0
  L := 0.01
  T := 293
  counterProp := false
  pm := .t2_e_eo
  lamP := 775e-9
  wpx := 1e-4
  wpy := 1e-4
  bandwidth := 1e-9
  power := 1
  threshold := 0.01
  deff := 1e-12
  sig := ⟨1500e-9, 0.01, 0, 5e-5, 5e-5, -0.003⟩
  idl := ⟨0, 0, 0, 6e-5, 6e-5, -0.002⟩
  idlerAuto := true
  poling := .on (-46e-6) .off

/-- its `k_eff` is a value, its primitive wavelengths are positive with `λ_p < λ_s`, and its idler
is the automatic one -/
example : Compose.kEff exAuto = .ok (Poling.twoPi * 1.0 / (46e-6 * -1.0))
    ∧ (0 : ℝ) < exAuto.lamP ∧ exAuto.lamP < exAuto.sig.lam ∧ exAuto.idlerAuto = true := by
  refine ⟨?_, by norm_num [exAuto], by norm_num [exAuto], rfl⟩
  simp only [Compose.kEff, Compose.pp, exAuto, Poling.PP.new, Poling.PP.kEff, Poling.Sign.mul]
  norm_num

end Spdc.Props.C03
