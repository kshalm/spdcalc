import Spdc.Real.Counts
import Spdc.Real.Singles
import Spdc.Real.ComposeGridLemmas
/-!
# C08 — fibre-coupled coincidences never exceed singles; rates and efficiencies consistent

**The pointwise inequality `0 ≤ jsi ≤ min(jsi_singles_signal, jsi_singles_idler)` between the two
independent closed forms is NOT proved here: it is the hypothesis `hpt` of `sum_lift` (validated only by
search on the real code, and violated on the pinned tree for strongly focused beams — finding D9).**
What is proved is everything the statement derives from it, and the efficiency algebra.
-/
namespace Spdc.Props.C08
open Spdc Spdc.Counts Spdc.Grid

/-- **T1a.** For positive singles rates the three efficiencies are `C/Ri`, `C/Rs`, `C/√(Rs·Ri)`. -/
theorem eff_formulas (c rs ri : ℝ) (hs : 0 < rs) (hi : 0 < ri) :
    (efficienciesFromCounts c rs ri).signal = c / ri ∧
    (efficienciesFromCounts c rs ri).idler = c / rs ∧
    (efficienciesFromCounts c rs ri).symmetric = c / Real.sqrt (rs * ri) := by
  rw [efficienciesFromCounts_real, Real.sqrt_mul hs.le]
  exact ⟨rfl, rfl, rfl⟩

section anyScalar
variable {α : Type} [Mul α] [Div α] [OfScientific α] [BEq α] [Transc α]

/-- **T1b (zero guards, any scalar type — in particular `Float`).** When a singles rate compares equal to
zero the affected efficiencies are the *literal* `0.0`: no quotient is formed, so the result cannot be
NaN or infinite whatever the other two rates are (even NaN). -/
theorem eff_zero_guard (c rs ri : α) :
    ((ri == (0.0 : α)) = true →
      (efficienciesFromCounts c rs ri).signal = (0.0 : α) ∧
      (efficienciesFromCounts c rs ri).symmetric = (0.0 : α)) ∧
    ((rs == (0.0 : α)) = true →
      (efficienciesFromCounts c rs ri).idler = (0.0 : α) ∧
      (efficienciesFromCounts c rs ri).symmetric = (0.0 : α)) := by
  constructor
  · intro h; simp [efficienciesFromCounts, h]
  · intro h; simp [efficienciesFromCounts, h]

/-- the rates are passed through unchanged -/
theorem eff_rates (c rs ri : α) :
    (efficienciesFromCounts c rs ri).coincidences = c ∧
    (efficienciesFromCounts c rs ri).signalSingles = rs ∧
    (efficienciesFromCounts c rs ri).idlerSingles = ri := ⟨rfl, rfl, rfl⟩

end anyScalar

section spectrumGuard
variable {α : Type} [Add α] [Mul α] [OfScientific α] [BEq α]

/-- **Zero guards of the spectra (any scalar type — in particular `Float`).** Where the raw singles value
(`jsi_singles_raw`: forced to 0 outside the validity box and below the pump threshold) compares equal to zero,
`JointSpectrum::jsi_singles` is the *literal* `0.0` whatever the normalisation is — in particular when the
normalisation is NaN because the Sellmeier equations are undefined at that frequency (ω → 0) —, and likewise
`JointSpectrum::jsi` where `jsa_raw` is zero: a grid may contain such pairs without poisoning the summed rates. -/
theorem spectrum_zero_guard (raw re im n : α) :
    ((raw == (0.0 : α)) = true → jsiSinglesPoint raw n = (0.0 : α)) ∧
    ((re == (0.0 : α)) = true → (im == (0.0 : α)) = true → jsiPoint re im n = (0.0 : α)) := by
  constructor
  · intro h; simp [jsiSinglesPoint, h]
  · intro h1 h2; simp [jsiPoint, h1, h2]

end spectrumGuard

/-- over ℝ the guards change nothing (`n·0 = 0`): they matter only in floating point, where `NaN·0 = NaN` — the
faithful forms `jsiSinglesPoint` / `jsiPoint` and the spec forms `n·raw`, `n·|jsa|²` agree in exact arithmetic. -/
theorem spectrum_guard_redundant_real (raw re im n : ℝ) :
    jsiSinglesPoint raw n = n * raw ∧ jsiPoint re im n = n * (re * re + im * im) :=
  ⟨ite_zero_guard fun h => by rw [(beq_zero_real raw).mp h, mul_zero],
    ite_zero_guard fun h => by
      rw [Bool.and_eq_true, beq_zero_real, beq_zero_real] at h
      rw [h.1, h.2, mul_zero, add_zero, mul_zero]⟩

example : jsiSinglesPoint (0 : ℝ) 7 = 0 ∧ jsiSinglesPoint (2 : ℝ) 7 = 14 := by
  have h := spectrum_guard_redundant_real
  constructor
  · rw [(h 0 0 0 7).1]; norm_num
  · rw [(h 2 0 0 7).1]; norm_num

/-- **T1b over ℝ**: a zero singles rate gives efficiency 0 (where `x/0 = 0` in Mathlib would have hidden
a division by zero, the model does not divide at all — see `eff_zero_guard`). -/
theorem eff_zero_guard_real (c rs ri : ℝ) :
    (ri = 0 → (efficienciesFromCounts c rs ri).signal = 0 ∧ (efficienciesFromCounts c rs ri).symmetric = 0) ∧
    (rs = 0 → (efficienciesFromCounts c rs ri).idler = 0 ∧ (efficienciesFromCounts c rs ri).symmetric = 0) := by
  rw [efficienciesFromCounts_real]
  exact ⟨fun h => by simp [h], fun h => by simp [h]⟩

/-- **T2a.** All three efficiencies lie in `[0,1]` whenever `0 ≤ C ≤ min(Rs, Ri)` (`C = √C·√C ≤ √Rs·√Ri` gives the
symmetric one), including the guarded cases. -/
theorem eff_in_unit_interval (c rs ri : ℝ) (h0 : 0 ≤ c) (hs : c ≤ rs) (hi : c ≤ ri) :
    let e := efficienciesFromCounts c rs ri
    (0 ≤ e.signal ∧ e.signal ≤ 1) ∧ (0 ≤ e.idler ∧ e.idler ≤ 1) ∧ (0 ≤ e.symmetric ∧ e.symmetric ≤ 1) := by
  rw [efficienciesFromCounts_real]
  exact ⟨div_mem_unit h0 hi, div_mem_unit h0 hs, div_mem_unit h0 (le_sqrt_mul_sqrt h0 hs hi)⟩

/-- **T3a (definition of the rates).** Each rate is the common correction factor times the rectangle sum
of the spectrum over the grid: `corr · Σ_k value_k · dω_s dω_i`. -/
theorem counts_def (corr : ℝ) (g : Steps2D ℝ) (vals : List ℝ) :
    counts corr g vals = corr * (vals.sum * (g.x.divisionWidth * g.y.divisionWidth)) := by
  unfold counts cellArea
  rw [sumList_eq, List.sum_map_mul_right, List.map_id']

/-- **T2b (lifting).** If at every grid point `0 ≤ jsi ≤ singles_signal` and `jsi ≤ singles_idler`
(hypothesis `hpt` — the residual of this property), the correction factor and the cell area are
non-negative, then the three rates satisfy `0 ≤ C ≤ min(Rs, Ri)` and all three efficiencies computed by
`spdc::efficiencies` lie in `[0,1]`. -/
theorem sum_lift (corr : ℝ) (g : Steps2D ℝ) (jsi ss si : List ℝ)
    (hcorr : 0 ≤ corr) (harea : 0 ≤ cellArea g)
    (hpos : ∀ x ∈ jsi, 0 ≤ x)
    (hpt : List.Forall₂ (· ≤ ·) jsi ss ∧ List.Forall₂ (· ≤ ·) jsi si) :
    let e := efficiencies corr g jsi ss si
    0 ≤ e.coincidences ∧ e.coincidences ≤ e.signalSingles ∧ e.coincidences ≤ e.idlerSingles ∧
    (0 ≤ e.signal ∧ e.signal ≤ 1) ∧ (0 ≤ e.idler ∧ e.idler ≤ 1) ∧ (0 ≤ e.symmetric ∧ e.symmetric ≤ 1) := by
  have mono : ∀ {u v : List ℝ}, List.Forall₂ (· ≤ ·) u v → counts corr g u ≤ counts corr g v :=
    fun h => by
      rw [counts_def, counts_def]
      exact mul_le_mul_of_nonneg_left (mul_le_mul_of_nonneg_right h.sum_le_sum harea) hcorr
  have hC0 : 0 ≤ counts corr g jsi := by
    rw [counts_def]; exact mul_nonneg hcorr (mul_nonneg (List.sum_nonneg hpos) harea)
  exact ⟨hC0, mono hpt.1, mono hpt.2, eff_in_unit_interval _ _ _ hC0 (mono hpt.1) (mono hpt.2)⟩

/-- **T3b.** The same correction factor multiplies all three rates, so it cancels in every efficiency. -/
theorem eff_corr_cancels (k c rs ri : ℝ) (hk : 0 < k) :
    (efficienciesFromCounts (k * c) (k * rs) (k * ri)).signal = (efficienciesFromCounts c rs ri).signal ∧
    (efficienciesFromCounts (k * c) (k * rs) (k * ri)).idler = (efficienciesFromCounts c rs ri).idler ∧
    ((0 ≤ rs ∧ 0 ≤ ri) →
      (efficienciesFromCounts (k * c) (k * rs) (k * ri)).symmetric = (efficienciesFromCounts c rs ri).symmetric) := by
  rw [efficienciesFromCounts_real, efficienciesFromCounts_real]
  refine ⟨mul_div_mul_left c ri hk.ne', mul_div_mul_left c rs hk.ne', fun _ => ?_⟩
  show k * c / (Real.sqrt (k * rs) * Real.sqrt (k * ri)) = c / (Real.sqrt rs * Real.sqrt ri)
  rw [Real.sqrt_mul hk.le, Real.sqrt_mul hk.le, mul_mul_mul_comm, Real.mul_self_sqrt hk.le,
    mul_div_mul_left _ _ hk.ne']

/-- **D13 (repaired).** The pinned tree's `√(Rs·Ri)` and the repaired `√Rs·√Ri` agree over ℝ for
non-negative rates — they differ only in `f64`, where the product leaves the range. -/
theorem symmetric_repair_is_conservative (c rs ri : ℝ) (hs : 0 ≤ rs) :
    symmetricPinned c rs ri = (efficienciesFromCounts c rs ri).symmetric := by
  simp only [symmetricPinned, efficienciesFromCounts, transc_sqrt_real, Real.sqrt_mul hs]

/-- **T4 (partial).** Skeleton of the no-diffraction clause, proved exactly: for a collinear signal
(`θ_s = θ_s,ext = 0`) and no pump walk-off (`tan ρ = 0`) the numerator of the singles integrand is the pure
phase `exp(i·(L·Δk/2)·(z₁ − z₂))`, `Δk = k_p − (±k_s ± k_i + k_eff)` — the tilt terms `GG`, `IIgam`, `Γ₄` and
the walk-off terms `HH`, `IIrho` vanish identically; so it has modulus 1 and equals 1 at perfect phase
matching (this is "F = R = 1 without walk-off" on the numerator side), and the integrand is
`a(z₁)a(z₂)·phase / denominator`.
**Missing (hence `_partial`; validated by search only, `C08.limit`, 1e-4):** (i) that in the large-waist limit
`k_p W² ≫ L` the denominator `8√(AA1·BB1·AA2·BB2·EE·FF)` tends to the Gaussian mode-overlap constant that
gives `η`, and (ii) that with walk-off the numerator tends to the Gaussian whose double integral is `R`; both are
asymptotic statements about ~25 complex sub-expressions under a principal square root, not identities. -/
theorem singles_ideal_partial (p : Singles.SinglesIn ℝ) (hθ : p.thetaS = 0) (hθe : p.thetaSe = 0)
    (hρ : Real.tan p.rho = 0) (a1 a2 z1 z2 : ℝ) :
    let Δk := p.kp - (p.signKs * p.ksAbs + p.signKi * p.kiAbs + p.keff)
    let nd := Singles.numDen (Singles.coef p) z1 z2
    nd.1.toC = Complex.exp (((1 / 2 * (p.len * Δk) * (z1 - z2) : ℝ) : ℂ) * Complex.I) ∧
    ‖nd.1.toC‖ = 1 ∧
    (Δk = 0 → nd.1.toC = 1) ∧
    (Singles.integrand (Singles.coef p) a1 a2 z1 z2).toC = ((a1 * a2 : ℝ) : ℂ) * nd.1.toC / nd.2.toC := by
  obtain ⟨h3, hl, hl2, hg, hc3⟩ := Singles.coef_collinear p hθ hθe hρ
  have hnum := Singles.numerator_of (Singles.coef p) h3 hl hl2 hg z1 z2
  rw [hc3] at hnum
  refine ⟨hnum, ?_, ?_, ?_⟩
  · rw [hnum, Complex.norm_exp_ofReal_mul_I]
  · intro h0
    rw [hnum, h0]; simp
  · simp [Singles.integrand]

/-- the hypotheses of `singles_ideal_partial` hold for a concrete collinear input of unit length -/
example : ∃ p : Singles.SinglesIn ℝ, p.thetaS = 0 ∧ p.thetaSe = 0 ∧ Real.tan p.rho = 0 ∧ p.len = 1 :=
  ⟨⟨1, 0, 0, 0, 1, 1, 1, 1, 1, 2, 3, 1, 1, 0, 0, 0⟩, rfl, rfl, by simp, rfl⟩

/-- `eff_formulas` at `C = 2`, `Rs = 4`, `Ri = 9`: the symmetric efficiency is `2/√36` -/
example : (efficienciesFromCounts (2 : ℝ) 4 9).symmetric = 1 / 3 := by
  have h := (eff_formulas 2 4 9 (by norm_num) (by norm_num)).2.2
  rw [h, show (4 : ℝ) * 9 = 6 ^ 2 by norm_num, Real.sqrt_sq (by norm_num)]
  norm_num

/-- the hypotheses of `sum_lift` hold on a concrete grid with three values per spectrum -/
example :
    let e := efficiencies (1 / 2 : ℝ) ⟨⟨0, 1, 2⟩, ⟨0, 3, 2⟩⟩ [1, 0, 2] [2, 0, 2] [1, 1, 5]
    0 ≤ e.symmetric ∧ e.symmetric ≤ 1 := by
  exact (sum_lift (1 / 2 : ℝ) ⟨⟨0, 1, 2⟩, ⟨0, 3, 2⟩⟩ [1, 0, 2] [2, 0, 2] [1, 1, 5] (by norm_num)
    (by simp [cellArea, Steps.divisionWidth]) (by norm_num) ⟨by norm_num, by norm_num⟩).2.2.2.2.2

/-! ## composed model (grid level)

The theorems above take the three spectra on the grid and the correction factor as inputs.  Below they
are lifted to the COMPOSED model (`Spdc/Model/ComposeGrid.lean`): `countsCoincidences`,
`countsSinglesSignal`, `countsSinglesIdler`, `efficiencies` are the `SPDC::counts_*` /
`SPDC::efficiencies` calls on a primitive setup — spectrum objects through the composed
`try_as_optimum`, spectra through all layers, the correction factor from the composed phase and group
indices, `dω_s·dω_i` from the range.  The pointwise inequality stays a hypothesis (see the header). -/

/-- composed model, T3a lifted: the composed coincidence rate of ANY primitive setup over ANY range
with non-empty axes is the composed correction factor times the sum of the composed `jsi` over the
row-major enumeration of the frequency space times `dω_s·dω_i`. -/
theorem compose_counts_def (S : Compose.Setup ℝ) (divs : Nat) (js : Compose.JS ℝ)
    (hjs : Compose.jointSpectrum S divs = .ok js) (J : PM.JSetup ℝ) (hJ : Compose.jsetup S = .ok J)
    (q : List (ℝ × ℝ) × ℝ) (hq : Compose.simpsonRule divs = .ok q) (R : Compose.Ranges ℝ)
    (hx : R.toFrequencySpace.x.n ≠ 0) (hy : R.toFrequencySpace.y.n ≠ 0) :
    Compose.countsCoincidences S divs R = (Compose.countsCorrection S).map fun corr =>
      corr * ((R.toFrequencySpace.collect.map fun p => PM.jsi J q.1 q.2 p.1 p.2).sum *
        (R.toFrequencySpace.x.divisionWidth * R.toFrequencySpace.y.divisionWidth)) := by
  obtain ⟨rfl, rfl, -⟩ := Compose.jointSpectrum_ok hjs
  unfold Compose.countsCoincidences
  rw [hjs, Outcome.bind_ok, Compose.countsOf_eq _ _ hx hy, Compose.JS.jsi_total hJ hq,
    Compose.mapPoints_total]
  simp only [Outcome.map_ok, Outcome.bind_ok_comp, counts_def]

/-- composed model, C07-T1 + T3 lifted: scaling the primitive pump power by `a` and `deff` by `b`
multiplies the composed coincidence rate and the composed signal-singles rate by `a·b²` (the
correction factor reads neither), whenever a spectrum object exists for both setups (`hjs'` is a hypothesis
of its own: that `try_as_optimum` inside `JointSpectrum::new` succeeds on the scaled setup is not derived). -/
theorem compose_counts_linear (S : Compose.Setup ℝ) (a b : ℝ) (divs : Nat) (R : Compose.Ranges ℝ)
    (js js' : Compose.JS ℝ) (hjs : Compose.jointSpectrum S divs = .ok js)
    (hjs' : Compose.jointSpectrum (S.scaled a b) divs = .ok js') :
    Compose.countsCoincidences (S.scaled a b) divs R
        = (Compose.countsCoincidences S divs R).map (fun x => a * b ^ 2 * x)
      ∧ Compose.countsSinglesSignal (S.scaled a b) divs R
        = (Compose.countsSinglesSignal S divs R).map (fun x => a * b ^ 2 * x) := by
  simp only [Compose.countsCoincidences, Compose.countsSinglesSignal, hjs, hjs', Outcome.bind_ok]
  exact ⟨Compose.countsOf_scaled S a b _ fun x y => (Compose.jointSpectrum_scaled hjs hjs' x y).1,
    Compose.countsOf_scaled S a b _ fun x y => (Compose.jointSpectrum_scaled hjs hjs' x y).2⟩

/-- composed model: the same for the idler-singles rate (spectrum objects of the exchanged setups) -/
theorem compose_counts_idler_linear (S : Compose.Setup ℝ) (a b : ℝ) (divs : Nat) (R : Compose.Ranges ℝ)
    (sw sw' : Compose.JS ℝ) (hsw : Compose.jointSpectrum S.swap divs = .ok sw)
    (hsw' : Compose.jointSpectrum (S.scaled a b).swap divs = .ok sw') :
    Compose.countsSinglesIdler (S.scaled a b) divs R
        = (Compose.countsSinglesIdler S divs R).map (fun x => a * b ^ 2 * x) := by
  simp only [Compose.countsSinglesIdler, hsw, hsw', Outcome.bind_ok]
  exact Compose.countsOf_scaled S a b _ fun x y => (Compose.jointSpectrum_scaled hsw hsw' y x).2

/-- composed model, T1a lifted: the composed `SPDC::efficiencies` is `efficiencies_from_counts` of the
three composed rates; for positive singles rates the three efficiencies are `C/Ri`, `C/Rs`,
`C/√(Rs·Ri)`. -/
theorem compose_efficiencies_formula (S : Compose.Setup ℝ) (divs : Nat) (R : Compose.Ranges ℝ)
    (c rs ri : ℝ) (hc : Compose.countsCoincidences S divs R = .ok c)
    (hs : Compose.countsSinglesSignal S divs R = .ok rs) (hi : Compose.countsSinglesIdler S divs R = .ok ri) :
    Compose.efficiencies S divs R = .ok (efficienciesFromCounts c rs ri) ∧
      (0 < rs → 0 < ri →
        (efficienciesFromCounts c rs ri).signal = c / ri ∧ (efficienciesFromCounts c rs ri).idler = c / rs ∧
        (efficienciesFromCounts c rs ri).symmetric = c / Real.sqrt (rs * ri)) := by
  refine ⟨?_, fun h1 h2 => eff_formulas c rs ri h1 h2⟩
  unfold Compose.efficiencies
  rw [hc, hs, hi]
  rfl

/-- composed model, T2b lifted (**partial**: the pointwise inequality `hpt` between the composed
coincidence spectrum and the two composed singles spectra on the grid is a hypothesis, as in
`sum_lift`; so are a non-negative correction factor and cell area).  Then the three composed rates
satisfy `0 ≤ C ≤ min(Rs, Ri)` and all three composed efficiencies lie in `[0, 1]`. -/
theorem compose_efficiencies_unit_partial (S : Compose.Setup ℝ) (divs : Nat) (R : Compose.Ranges ℝ)
    (js sw : Compose.JS ℝ) (hjs : Compose.jointSpectrum S divs = .ok js)
    (hsw : Compose.jointSpectrum S.swap divs = .ok sw)
    (hx : R.toFrequencySpace.x.n ≠ 0) (hy : R.toFrequencySpace.y.n ≠ 0)
    (corr : ℝ) (hcorr : Compose.countsCorrection S = .ok corr) (hcorr0 : 0 ≤ corr)
    (harea : 0 ≤ cellArea R.toFrequencySpace)
    (vj vs vi : List ℝ)
    (hvj : Compose.mapPoints js.jsi R.toFrequencySpace.collect = .ok vj)
    (hvs : Compose.mapPoints js.jsiSingles R.toFrequencySpace.collect = .ok vs)
    (hvi : Compose.mapPoints (fun ωs ωi => sw.jsiSingles ωi ωs) R.toFrequencySpace.collect = .ok vi)
    (hpos : ∀ x ∈ vj, 0 ≤ x)
    (hpt : List.Forall₂ (· ≤ ·) vj vs ∧ List.Forall₂ (· ≤ ·) vj vi) :
    ∃ e, Compose.efficiencies S divs R = .ok e ∧
      0 ≤ e.coincidences ∧ e.coincidences ≤ e.signalSingles ∧ e.coincidences ≤ e.idlerSingles ∧
      (0 ≤ e.signal ∧ e.signal ≤ 1) ∧ (0 ≤ e.idler ∧ e.idler ≤ 1) ∧ (0 ≤ e.symmetric ∧ e.symmetric ≤ 1) := by
  refine ⟨_, ?_, sum_lift corr R.toFrequencySpace vj vs vi hcorr0 harea hpos hpt⟩
  unfold Compose.efficiencies Compose.countsCoincidences Compose.countsSinglesSignal Compose.countsSinglesIdler
  rw [hjs, hsw]
  simp only [Outcome.bind_ok, Compose.countsOf_eq S _ hx hy, hcorr, hvj, hvs, hvi, Outcome.map_ok]
  rfl

/-- a concrete frequency range with a non-empty first axis and non-negative cell area -/
example : (Compose.Ranges.freq (⟨⟨1, 2, 3⟩, ⟨1, 3, 2⟩⟩ : Steps2D ℝ)).toFrequencySpace.x.n ≠ 0 ∧
    0 ≤ cellArea (Compose.Ranges.freq (⟨⟨1, 2, 3⟩, ⟨1, 3, 2⟩⟩ : Steps2D ℝ)).toFrequencySpace := by
  constructor
  · simp [Compose.Ranges.toFrequencySpace]
  · simp [Compose.Ranges.toFrequencySpace, cellArea, Steps.divisionWidth]

/-- … and a sum–difference range keeps its 4 points on the second axis (`hy`) -/
example : (Compose.Ranges.sumDiff (⟨⟨1, 2, 3⟩, ⟨0, 1, 4⟩⟩ : Steps2D ℝ)).toFrequencySpace.y.n = 4 := rfl

/-- the hypotheses `hjs`, `hJ`, `hq` of the composed theorems hold for the concrete setup `Compose.exGrid` -/
example : ∃ js J q, Compose.jointSpectrum Compose.exGrid 50 = .ok js ∧ Compose.jsetup Compose.exGrid = .ok J ∧
    (Compose.simpsonRule 50 : Outcome (List (ℝ × ℝ) × ℝ)) = .ok q := Compose.exGrid_available

/-- … and so does the spectrum object of the exchanged setup (idler-singles route) -/
example : ∃ sw, Compose.jointSpectrum Compose.exGrid.swap 50 = .ok sw := Compose.exGrid_swap_available

end Spdc.Props.C08
