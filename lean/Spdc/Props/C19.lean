import Spdc.Real.Poling
/-!
# C19 — apodization windows and poling domains are well-formed

All statements are about the executable model `Spdc/Model/Poling.lean` at the scalar `ℝ`.
-/
namespace Spdc.Props.C19
open Spdc Spdc.Poling

/-- the seven built-in kinds at width parameter 1 (the Gaussian for any FWHM) -/
def builtin1 (w : Apod ℝ) : Prop :=
  w = .bartlett 1 ∨ w = .blackman 1 ∨ w = .connes 1 ∨ w = .cosine 1 ∨ w = .hamming 1 ∨ w = .welch 1
    ∨ ∃ fwhm, w = .gaussian fwhm

/-- T1. Every built-in window with width parameter 1 is, for `z ∈ [−1, 1]`, a value (no panic),
even in `z`, equal to 1 at the centre and within `[0, 1]`. -/
theorem window_builtin (w : Apod ℝ) (hw : builtin1 w) (len z : ℝ) (hz : -1 ≤ z ∧ z ≤ 1) :
    ∃ v v0 : ℝ, window w z len = .ok v ∧ window w (-z) len = .ok v ∧ window w 0 len = .ok v0
      ∧ v0 = 1 ∧ 0 ≤ v ∧ v ≤ 1 := by
  obtain ⟨f, hf, heven, h0, hr⟩ : ∃ f : ℝ → ℝ, (∀ x, windowRaw w x len = .ok (f x)) ∧ f (-z) = f z ∧
      f 0 = 1 ∧ 0 ≤ f z ∧ f z ≤ 1 := by
    rcases hw with rfl | rfl | rfl | rfl | rfl | rfl | ⟨fwhm, rfl⟩
    · exact ⟨_, (windowRaw_bartlett1 · len), by simp [bartlett1], by simp [bartlett1], bartlett1_range hz⟩
    · exact ⟨_, (windowRaw_blackman1 · len), by simp only [blackman1, mul_neg, Real.cos_neg],
        by norm_num [blackman1], blackman1_range z⟩
    · exact ⟨_, (windowRaw_connes1 · len), by simp only [connes1, neg_sq], by simp [connes1], connes1_range hz⟩
    · exact ⟨_, (windowRaw_cosine1 · len), by simp [cosine1], by simp [cosine1], cosine1_range hz⟩
    · exact ⟨_, (windowRaw_hamming1 · len), by simp [hamming1], by norm_num [hamming1], hamming1_range z⟩
    · exact ⟨_, (windowRaw_welch1 · len), by simp only [welch1, neg_sq], by simp [welch1], welch1_range hz⟩
    · exact ⟨_, (windowRaw_gaussian fwhm · len), gaussianW_even fwhm len z, by simp [gaussianW],
        gaussianW_range fwhm len z⟩
  refine ⟨f z, f 0, ?_, ?_, ?_, h0, hr⟩
  · rw [window_in_range w z len hz, hf]
  · rw [window_in_range w (-z) len ⟨by linarith [hz.2], by linarith [hz.1]⟩, hf, heven]
  · rw [window_in_range w 0 len ⟨by norm_num, by norm_num⟩, hf]

/-- T1b. Outside `[−1, 1]` the call panics (the `assert!` on `z`), whatever the window. -/
theorem window_outside_panics (w : Apod ℝ) (z len : ℝ) (hz : z < -1 ∨ 1 < z) :
    (window w z len).isPanic = true := window_out_of_range w z len hz

/-- T1c. The Gaussian window falls to one half at `z = ± fwhm / L`, i.e. at ± half its FWHM
(`z` is the position in units of half the crystal length). -/
theorem gaussian_half (fwhm len : ℝ) (hf : 0 < fwhm) (hl : 0 < len) (hz : fwhm ≤ len) :
    window (.gaussian fwhm) (fwhm / len) len = .ok (1 / 2)
      ∧ window (.gaussian fwhm) (-(fwhm / len)) len = .ok (1 / 2) := by
  have h1 : fwhm / len ≤ 1 := (div_le_one hl).mpr hz
  have h0 : 0 ≤ fwhm / len := (div_pos hf hl).le
  rw [window_in_range _ _ _ ⟨by linarith, h1⟩, window_in_range _ _ _ ⟨by linarith, by linarith⟩,
    windowRaw_gaussian, windowRaw_gaussian, gaussianW_even, gaussianW_half fwhm len hf.ne' hl.ne']
  exact ⟨rfl, rfl⟩

/-- T1d. No apodization means weight 1 everywhere. -/
theorem off_one (z len : ℝ) (hz : -1 ≤ z ∧ z ≤ 1) : window .off z len = .ok 1 := by
  rw [window_in_range _ _ _ hz]; simp [windowRaw, lit_one]

example : builtin1 (.blackman 1) := Or.inr (Or.inl rfl)
example : window (.gaussian (500e-6 : ℝ)) (500e-6 / 1e-3) 1e-3 = .ok (1 / 2) :=
  (gaussian_half 500e-6 1e-3 (by norm_num) (by norm_num) (by norm_num)).1

/-- T2a. No samples: weight 1.  (One sample: that sample everywhere, `Poling.interpolate_single`.) -/
theorem interp_empty (z len : ℝ) (hz : -1 ≤ z ∧ z ≤ 1) : window (.interpolate []) z len = .ok 1 := by
  rw [window_in_range _ _ _ hz]; exact interpolate_nil z

/-- T2b. Piecewise linearity: a fraction `t ∈ [0,1]` of the way from sample `j` to sample `j+1`
(samples sit at `z_j = −1 + 2j/(n−1)`) the profile is `v_j (1−t) + v_{j+1} t`; in particular it
passes through every sample. -/
theorem interp_piecewise_linear (vs : List ℝ) (len : ℝ) (j : ℕ) (hj : j + 1 < vs.length) (t : ℝ)
    (ht : 0 ≤ t ∧ t ≤ 1) :
    window (.interpolate vs) (interpPos vs.length j t) len = .ok (vs[j] * (1 - t) + vs[j + 1] * t) := by
  rw [window_in_range _ _ _ (interpPos_range vs.length j t hj ht)]
  exact interpolate_linear vs j hj t ht

/-- T2c. The first and last samples are returned at `z = −1` and `z = +1`. -/
theorem interp_ends (vs : List ℝ) (len : ℝ) (hn : 2 ≤ vs.length) :
    window (.interpolate vs) (-1) len = .ok (vs[0]'(by omega))
      ∧ window (.interpolate vs) 1 len = .ok (vs[vs.length - 1]'(by omega)) := by
  rw [window_in_range _ _ _ ⟨le_refl _, by norm_num⟩, window_in_range _ _ _ ⟨by norm_num, le_refl _⟩]
  exact ⟨interpolate_sample vs 0 (by omega) (by rw [interpIndex, Nat.cast_zero]; ring),
    interpolate_sample vs (vs.length - 1) (by omega) (by rw [interpIndex]; ring)⟩

/-- T2d. Inside `[−1, 1]` no window ever panics (the interpolation indices stay in range). -/
theorem window_never_panics (w : Apod ℝ) (z len : ℝ) (hz : -1 ≤ z ∧ z ≤ 1) :
    ∃ v, window w z len = .ok v := window_isOk w z len hz

/-- T3a. A poled crystal has `⌈L/Λ⌉` domains; the list is never a panic and entry `i` is the pair
computed from the window value at the centre `z_i = −1 + (2i+1)/n` of that domain. -/
theorem domains_list (period : ℝ) (sign : Sign) (w : Apod ℝ) (len : ℝ) :
    (PP.on period sign w).numDomains len = ⌈len / period⌉.toNat
      ∧ ∃ l, (PP.on period sign w).polingDomains len = .ok l
          ∧ l.length = ⌈len / period⌉.toNat
          ∧ ∀ i (hi : i < l.length),
              l[i] = domainPair (centreValue w len i ⌈len / period⌉.toNat) (domainCentre i ⌈len / period⌉.toNat)
              ∧ window w (domainCentre i ⌈len / period⌉.toNat) len
                  = .ok (centreValue w len i ⌈len / period⌉.toNat)
              ∧ (domainCentre i ⌈len / period⌉.toNat : ℝ) = -1 + (2 * (i : ℝ) + 1) / (⌈len / period⌉.toNat : ℝ) := by
  refine ⟨numDomains_on period sign w len, _, polingDomains_on period sign w len, by simp, ?_⟩
  intro i hi
  have hi' : i < ⌈len / period⌉.toNat := by simpa using hi
  refine ⟨by simp, window_centre w len i _ hi', domainCentre_real i _⟩

/-- T3b. For a window value `a ∈ [−1, 1]` both fractions of the pair lie in `[0,1]` and sum to 1;
the narrower one is `d = arccos(1−2a²)/2π ≤ ½` with `sin(π d) = |a|`; it is the second component in
the second half of the crystal (`z > 0`) and the first one otherwise. -/
theorem domain_pair (a z : ℝ) (ha : -1 ≤ a ∧ a ≤ 1) :
    0 ≤ (domainPair a z).1 ∧ (domainPair a z).1 ≤ 1 ∧ 0 ≤ (domainPair a z).2 ∧ (domainPair a z).2 ≤ 1
      ∧ (domainPair a z).1 + (domainPair a z).2 = 1
      ∧ min (domainPair a z).1 (domainPair a z).2 = dutyX a
      ∧ Real.sin (Real.pi * dutyX a) = |a|
      ∧ (0 < z → (domainPair a z).2 = dutyX a) ∧ (¬ 0 < z → (domainPair a z).1 = dutyX a) := by
  -- `0 ≤ d ≤ 1 − d ≤ 1`; the pair is `(1 − d, d)` or `(d, 1 − d)`
  have h0 := dutyX_nonneg a
  have h1 : dutyX a ≤ 1 - dutyX a := by linarith [dutyX_le_half a]
  have h2 : 0 ≤ 1 - dutyX a := h0.trans h1
  have h3 : 1 - dutyX a ≤ 1 := sub_le_self 1 h0
  have h4 : dutyX a ≤ 1 := h1.trans h3
  rw [domainPair_real]
  split_ifs with hz
  · exact ⟨h2, h3, h0, h4, sub_add_cancel 1 _, min_eq_right h1,
      sin_pi_dutyX a ha, fun _ => rfl, fun h => absurd hz h⟩
  · exact ⟨h0, h4, h2, h3, add_sub_cancel _ 1, min_eq_left h1,
      sin_pi_dutyX a ha, fun h => absurd h hz, fun _ => rfl⟩

/-- T3c. No apodization (`a = 1`) gives a 50 % duty cycle, and the domain centres are mirror
images about the crystal centre (so the order of the pair flips there). -/
theorem domain_half_and_mirror (z : ℝ) (i n : ℕ) (hi : i < n) :
    domainPair 1 z = (1 / 2, 1 / 2)
      ∧ (domainCentre (n - 1 - i) n : ℝ) = -(domainCentre i n : ℝ) := by
  refine ⟨?_, domainCentre_mirror i n hi⟩
  rw [domainPair_real, dutyX_one]; split_ifs <;> norm_num

/-- T4a. `new` (and hence `with_period`, `assign_period`) with a non-zero period stores the positive
magnitude and the sign: the signed period is the requested one, negative period ⇔ negative sign. -/
theorem new_convention (p : ℝ) (w : Apod ℝ) (hp : p ≠ 0) :
    ∃ m s, PP.new p w = .on m s w ∧ 0 < m ∧ m = |p| ∧ (s = .neg ↔ p < 0)
      ∧ (PP.new p w).signedPeriod? = some p := by
  refine ⟨_, _, new_on p w, abs_pos.mpr hp, rfl, ?_, new_signed p w⟩
  split_ifs with h
  · simpa using h.le
  · simpa using lt_of_le_of_ne (not_lt.mp h) hp

/-- T4b. Changing the period keeps the apodization (`Off` gets no apodization). -/
theorem period_update_keeps_apod (p : PP ℝ) (q : ℝ) :
    (p.withPeriod q).apodization = p.apodization ∧ (p.assignPeriod q).apodization = p.apodization := by
  cases p <;> exact ⟨rfl, rfl⟩

/-- T4c. Changing the apodization of a well-formed description keeps period and sign exactly. -/
theorem apod_update_keeps_period_sign (period : ℝ) (sign : Sign) (w0 w : Apod ℝ) (hp : 0 < period) :
    (PP.on period sign w0).withApodization w = .on period sign w :=
  withApodization_on period sign w0 w hp

/-- T4d. The invariant "stored magnitude positive" holds after every sequence of operations whose
requested periods are non-zero, starting from `Off` (induction over the sequence); it implies the
sign convention and the value of `k_eff`. -/
theorem state_machine_invariant (ops : List (Op ℝ))
    (ho : ∀ o ∈ ops, ∀ q, o.period? = some q → q ≠ 0) :
    (PP.off.run ops).Inv
      ∧ ∀ period sign w, PP.off.run ops = .on period sign w →
          0 < period ∧ (sign = .neg ↔ sign.mul period < 0) ∧ |sign.mul period| = period
            ∧ (PP.on period sign w).kEff = .ok (2 * Real.pi / sign.mul period) := by
  have hinv := run_inv ops PP.off trivial ho
  refine ⟨hinv, ?_⟩
  intro period sign w h
  rw [h] at hinv
  have hp : 0 < period := hinv
  exact ⟨hp, (sign_iff period sign hp).1, (sign_iff period sign hp).2, kEff_on period sign w hp⟩

example : (PP.off.run [Op.new (-46.5e-6 : ℝ) .off, .setApodization (.bartlett 1), .assignPeriod 10e-6]).Inv :=
  (state_machine_invariant _ (by
    intro o ho q hq
    simp only [List.mem_cons, List.not_mem_nil, or_false] at ho
    rcases ho with rfl | rfl | rfl <;> simp [Op.period?] at hq <;> subst hq <;> norm_num)).1
/-- the range hypothesis `hz` of `window_builtin`, `off_one`, `interp_empty`, `window_never_panics` is satisfiable -/
example : (-1 : ℝ) ≤ (0.3 : ℝ) ∧ (0.3 : ℝ) ≤ 1 := by norm_num

end Spdc.Props.C19
