import Spdc.Real.GridLemmas
import Mathlib.Data.Real.Basic
/-!
# C15 — parallel evaluation is independent of thread count and work splitting

A *schedule* of rayon over one of the two custom producers is a binary split tree: `node k l r`
calls `Producer::split_at(k)` and hands the halves to `l` and `r`; a `leaf` drains its producer
sequentially (`into_iter()`).  `SplitTree.ValidC t n` says every split index obeys rayon's
`Producer` contract `0 ≤ k ≤ len` (`SplitTree.Valid`, the narrower `1 ≤ k ≤ len − 1` that rayon's
`bridge` actually requests, implies it).  The theorems hold for **every** such tree.
-/
namespace Spdc.Props.C15
open Spdc Spdc.Grid

/-- T1. `ParIterator1D::split_at(k)` for every `0 ≤ k ≤ n`: no panic, the halves have `k` and `n − k`
points, point `j` of the left half is point `j` of the whole and point `j` of the right half is point
`k + j` — over any field of characteristic 0 (the sub-range endpoints are *re-derived* by the code,
so this is an identity of field arithmetic, not of syntax). -/
theorem split1_value {K : Type} [Field K] [CharZero K] (p : Steps K) (k : Nat) (hk : k ≤ p.n) :
    ∃ l r, split1 p k = .ok (l, r) ∧ l.n = k ∧ r.n = p.n - k ∧
      (∀ j, j < k → l.value j = p.value j) ∧
      (∀ j, j < p.n - k → r.value j = p.value (k + j)) ∧
      l.collect ++ r.collect = p.collect :=
  ⟨_, _, split1_eq_ok p k hk, rfl, rfl,
    fun j hj => split1_left_value p k j hj,
    fun j hj => split1_right_value p k j hj,
    split1_collect p k hk⟩

/-- T1. Outside the contract (`k > n`) the 1-D `split_at` underflows `steps − index`: a panic — any scalar -/
theorem split1_out_of_contract {α : Type} [Add α] [Sub α] [Mul α] [Div α] [NatCast α]
    (p : Steps α) (k : Nat) (hk : p.n < k) : (split1 p k).isPanic = true := by
  simp [split1, hk, Outcome.isPanic]

/-- T1. `ParIterator2D::split_at(k)` for every `0 ≤ k ≤ len`: no panic, lengths `k` and `len − k`, and the
halves' points are *syntactically* the points of the whole (same `Steps2D.value` applied to the same
global index) — for ANY scalar type, hence bit-exact in floating point. -/
theorem split2_value {α : Type} [Add α] [Sub α] [Mul α] [Div α] [NatCast α] [OfScientific α]
    (p : Prod2 α) (k : Nat) (hp : p.lo ≤ p.hi) (hk : k ≤ p.len) :
    ∃ l r, split2 p k = .ok (l, r) ∧ l.len = k ∧ r.len = p.len - k ∧
      l.steps = p.steps ∧ r.steps = p.steps ∧ l.lo = p.lo ∧ l.hi = r.lo ∧ r.hi = p.hi ∧
      l.collect ++ r.collect = p.collect := by
  have hk' : p.lo + k ≤ p.hi := by simp only [Prod2.len] at hk; omega
  refine ⟨_, _, split2_eq_ok p k hk', ?_, ?_, rfl, rfl, rfl, rfl, rfl, split2_collect p k hk'⟩
  · simp only [Prod2.len]; omega
  · simp only [Prod2.len]; omega

/-- T2. 1-D producer, any field of characteristic 0 (in particular ℝ): for every split tree the
contract allows, the leaves drained in order are the sequential traversal, and no split panics. -/
theorem leaves1_eq_sequential {K : Type} [Field K] [CharZero K] (p : Steps K) (t : SplitTree)
    (h : t.ValidC p.n) : leaves1 p t = some p.collect := by
  induction t generalizing p with
  | leaf => rfl
  | node k l r ihl ihr =>
    obtain ⟨hk, hl, hr⟩ := h
    simp only [leaves1, split1_eq_ok p k hk]
    rw [ihl _ hl, ihr _ hr]
    simp only [split1_collect p k hk]

/-- T2. The same for the trees rayon's `bridge` requests (`1 ≤ k ≤ len − 1`) -/
theorem leaves1_eq_sequential_of_valid {K : Type} [Field K] [CharZero K] (p : Steps K) (t : SplitTree)
    (h : t.Valid p.n) : leaves1 p t = some p.collect :=
  leaves1_eq_sequential p t (valid_validC t _ h)

/-- T2. 2-D producer, ANY scalar type (no algebraic law is used: `Steps2D.value` depends on the global
index only, so the equality is syntactic and holds bit-for-bit at `Float`). -/
theorem leaves2_eq_sequential {α : Type} [Add α] [Sub α] [Mul α] [Div α] [NatCast α] [OfScientific α]
    (s : Steps2D α) (t : SplitTree) (h : t.ValidC s.len) :
    leaves2 s.producer t = some s.collect := by
  rw [← s.producer_collect]
  exact leaves2_eq_collect t s.producer s.len (Nat.zero_add _) h

/-- T2. The same at the machine scalar, stated explicitly -/
theorem leaves2_eq_sequential_float (s : Steps2D Float) (t : SplitTree) (h : t.ValidC s.len) :
    leaves2 s.producer t = some s.collect :=
  leaves2_eq_sequential s t h

/-- T3 (DESIGN §3's `len_fresh`; `len_fresh2` is the 2-D one): a fresh `Iterator1D` reports its point
count (what rayon's `enumerate`/`collect` rely on). -/
theorem len_fresh1 {α : Type} [Add α] [Sub α] [Mul α] [Div α] [NatCast α] (s : Steps α) :
    s.iter.len = s.collect.length := by
  simp [Steps.iter, Iter1.len, Steps.collect]

/-- T3. Exact-size contract after partial consumption (what `enumerate().rev()` / `zip(..).rev()` rely on;
true of the code since the `fix:` commit 3d5ac37, D20): every successful pull from either end
lowers the reported length by exactly one, an unsuccessful one leaves state and length unchanged,
and an exhausted iterator reports 0. -/
theorem len_after_partial1 {α : Type} [Add α] [Sub α] [Mul α] [Div α] [NatCast α] (it : Iter1 α)
    (h : it.index ≤ it.indexBack) :
    ((it.next).1.isSome → (it.next).2.len + 1 = it.len) ∧
    ((it.nextBack).1.isSome → (it.nextBack).2.len + 1 = it.len) ∧
    ((it.next).1 = none → (it.next).2 = it ∧ it.len = 0) ∧
    ((it.nextBack).1 = none → (it.nextBack).2 = it ∧ it.len = 0) ∧
    (it.next).2.index ≤ (it.next).2.indexBack ∧ (it.nextBack).2.index ≤ (it.nextBack).2.indexBack := by
  simp only [Iter1.next, Iter1.nextBack, Iter1.len, ge_iff_le]
  by_cases hlt : it.index < it.indexBack
  · -- a point is left: either pull succeeds and shrinks the window `[index, index_back)` by one
    simp only [Nat.not_le.mpr hlt, if_false, Option.isSome_some, reduceCtorEq, false_imp_iff, true_imp_iff,
      true_and]
    omega
  · -- exhausted: nothing is delivered, the state is unchanged and `len = 0`
    simp only [Nat.not_lt.mp hlt, if_true, Option.isSome_none, Bool.false_eq_true, false_imp_iff,
      true_imp_iff, true_and]
    omega

/-- T3. The four length clauses of that contract for `Iterator2D` (not the closing two, that a pull
keeps `index ≤ index_back`) -/
theorem len_after_partial2 {α : Type} [Add α] [Sub α] [Mul α] [Div α] [NatCast α] [OfScientific α]
    (it : Iter2 α) (h : it.index ≤ it.indexBack) :
    ((it.next).1.isSome → (it.next).2.len + 1 = it.len) ∧
    ((it.nextBack).1.isSome → (it.nextBack).2.len + 1 = it.len) ∧
    ((it.next).1 = none → (it.next).2 = it ∧ it.len = 0) ∧
    ((it.nextBack).1 = none → (it.nextBack).2 = it ∧ it.len = 0) := by
  simp only [Iter2.next, Iter2.nextBack, Iter2.len, ge_iff_le]
  by_cases hlt : it.index < it.indexBack
  · simp only [Nat.not_le.mpr hlt, if_false, Option.isSome_some, reduceCtorEq, false_imp_iff, true_imp_iff,
      and_true]
    omega
  · simp only [Nat.not_lt.mp hlt, if_true, Option.isSome_none, Bool.false_eq_true, false_imp_iff,
      true_imp_iff, true_and]
    omega

/-- T3. A 2-D producer reports `hi − lo`, the number of points it delivers -/
theorem len_fresh2 {α : Type} [Add α] [Sub α] [Mul α] [Div α] [NatCast α] [OfScientific α]
    (p : Prod2 α) : p.len = p.collect.length :=
  p.collect_length.symm

/-- T3. 1-D: the leaf producers of any contract-valid tree have the lengths dictated by the split indices
alone (`leafLens`), each reports that length when fresh, and leaf `i` delivers exactly the slice of
the sequential traversal that starts at the sum of the lengths of the leaves to its left — the slot
rayon's `enumerate`/`collect` assign to it. -/
theorem enumerate_positions1 {K : Type} [Field K] [CharZero K] (p : Steps K) (t : SplitTree)
    (h : t.ValidC p.n) :
    ∃ ps lens, leafProds1 p t = some ps ∧ leafLens t p.n = some lens ∧ lens.sum = p.n ∧
      ps.map (fun q => q.iter.len) = lens ∧ ps.map (fun q => q.collect.length) = lens ∧
      ∀ i (hi : i < ps.length),
        (p.collect.take (lens.take (i + 1)).sum).drop (lens.take i).sum = ps[i].collect := by
  obtain ⟨ps, h1, h2, h3⟩ := leafProds1_spec t p h
  obtain ⟨hs, hi⟩ := slices_of_flatten Steps.collect (·.n) Steps.collect_length ps
  rw [h3] at hs hi
  exact ⟨ps, ps.map (·.n), h1, h2, by rw [hs, p.collect_length], by simp [Steps.iter, Iter1.len],
    by simp [Steps.collect_length], hi⟩

/-- T3. 2-D, any scalar type: same statement; in addition every leaf keeps the *global* grid description
(`steps`), so its points are `Steps2D.value` at global indices. -/
theorem enumerate_positions2 {α : Type} [Add α] [Sub α] [Mul α] [Div α] [NatCast α] [OfScientific α]
    (s : Steps2D α) (t : SplitTree) (h : t.ValidC s.len) :
    ∃ ps lens, leafProds2 s.producer t = some ps ∧ leafLens t s.len = some lens ∧ lens.sum = s.len ∧
      ps.map Prod2.len = lens ∧ ps.map (fun q => q.collect.length) = lens ∧
      ∀ i (hi : i < ps.length),
        (s.collect.take (lens.take (i + 1)).sum).drop (lens.take i).sum = ps[i].collect := by
  obtain ⟨ps, h1, h2, h3⟩ := leafProds2_spec t s.producer s.len (Nat.zero_add _) h
  obtain ⟨hs, hi⟩ := slices_of_flatten Prod2.collect Prod2.len Prod2.collect_length ps
  rw [h3, s.producer_collect] at hs hi
  exact ⟨ps, ps.map Prod2.len, h1, h2, by rw [hs, s.collect_length, Steps2D.len], rfl,
    by simp [Prod2.collect_length], hi⟩

/-- T4. Map–sum over the 1-D producer (`simpson2d`'s inner and outer sums): for every contract-valid
split tree the tree-shaped reduction (leaves folded from `0`, halves added) equals the sequential
sum — in any additive monoid `M` (associativity suffices: rayon keeps the order), in particular in
every commutative monoid, ℝ and ℂ. -/
theorem reduce_tree_invariant1 {K M : Type} [Field K] [CharZero K] [AddMonoid M] (f : K → M)
    (p : Steps K) (t : SplitTree) (h : t.ValidC p.n) :
    reduce1 (· + ·) 0 f p t = some ((p.collect.map f).sum) := by
  induction t generalizing p with
  | leaf => simp only [reduce1, List.sum_eq_foldl]
  | node k l r ihl ihr =>
    obtain ⟨hk, hl, hr⟩ := h
    simp only [reduce1, split1_eq_ok p k hk]
    rw [ihl _ hl, ihr _ hr]
    simp only [← List.sum_append, ← List.map_append, split1_collect p k hk]

/-- T4. Map–sum over the 2-D producer (`counts_*`, `hom_rate`): same, for ANY scalar type of the grid. -/
theorem reduce_tree_invariant2 {α M : Type} [Add α] [Sub α] [Mul α] [Div α] [NatCast α]
    [OfScientific α] [AddMonoid M] (f : α × α → M) (s : Steps2D α) (t : SplitTree)
    (h : t.ValidC s.len) :
    reduce2 (· + ·) 0 f s.producer t = some ((s.collect.map f).sum) := by
  rw [← s.producer_collect]
  exact reduce2_eq_sum f t s.producer s.len (Nat.zero_add _) h

/-- T4. Two different schedules give the same sum -/
theorem reduce_schedule_independent {K M : Type} [Field K] [CharZero K] [AddCommMonoid M] (f : K → M)
    (p : Steps K) (t₁ t₂ : SplitTree) (h₁ : t₁.ValidC p.n) (h₂ : t₂.ValidC p.n) :
    reduce1 (· + ·) 0 f p t₁ = reduce1 (· + ·) 0 f p t₂ := by
  rw [reduce_tree_invariant1 f p t₁ h₁, reduce_tree_invariant1 f p t₂ h₂]

/-- a tree with proper, degenerate-left (`k = 0`) and degenerate-right (`k = len`) splits -/
def exTree : SplitTree := .node 2 (.node 0 .leaf (.node 2 .leaf .leaf)) (.node 1 .leaf .leaf)

example : exTree.ValidC 5 := by simp [exTree, SplitTree.ValidC]
example : (SplitTree.node 2 .leaf (.node 1 .leaf .leaf)).Valid 5 := by simp [SplitTree.Valid]
example : leaves1 (⟨0, 1, 5⟩ : Steps ℝ) exTree = some (⟨0, 1, 5⟩ : Steps ℝ).collect :=
  leaves1_eq_sequential _ _ (by simp [exTree, SplitTree.ValidC])
example : leaves2 (⟨⟨0, 1, 5⟩, ⟨2, 3, 1⟩⟩ : Steps2D Float).producer exTree
    = some (⟨⟨0, 1, 5⟩, ⟨2, 3, 1⟩⟩ : Steps2D Float).collect :=
  leaves2_eq_sequential_float _ _ (by simp [exTree, SplitTree.ValidC, Steps2D.len])
example : ∃ l r, split1 (⟨0, 1, 5⟩ : Steps ℝ) 0 = .ok (l, r) ∧ l.n = 0 :=
  let ⟨l, r, h, hl, _⟩ := split1_value (⟨0, 1, 5⟩ : Steps ℝ) 0 (by norm_num); ⟨l, r, h, hl⟩
example : reduce1 (· + ·) 0 (fun x : ℝ => x * x) (⟨0, 1, 5⟩ : Steps ℝ) exTree
    = some (((⟨0, 1, 5⟩ : Steps ℝ).collect.map fun x => x * x).sum) :=
  reduce_tree_invariant1 _ _ _ (by simp [exTree, SplitTree.ValidC])
example : ∃ ps lens, leafProds1 (⟨0, 1, 5⟩ : Steps ℝ) exTree = some ps ∧ leafLens exTree 5 = some lens ∧
    lens.sum = 5 :=
  let ⟨ps, lens, h1, h2, h3, _⟩ := enumerate_positions1 (⟨0, 1, 5⟩ : Steps ℝ) exTree
    (by simp [exTree, SplitTree.ValidC]); ⟨ps, lens, h1, h2, h3⟩

end Spdc.Props.C15
