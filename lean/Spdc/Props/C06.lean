import Spdc.Real.Jsa
import Spdc.Real.ComposeLemmas
/-!
# C06 — relabelling signal and idler leaves the coincidence joint spectrum unchanged

All statements are about the executable model of `get_pm_integrand`, `phasematch_fiber_coupling`,
`jsa_raw`, `JointSpectrum::{jsa,jsi,jsi_singles}`, `with_swapped_signal_idler`,
`get_counts_correction` (`Spdc/Model/{PM,Norm,Jsa}.lean`) at `α := ℝ`, for every dispersion law
(`Beam.n`, `Setup.nP` are arbitrary functions), every apodisation profile and every fixed-weight
quadrature rule.
`Coef.Good` / `Good` is the guard that `A1 … A4`, `denom1`, `denom2` do not vanish (Mathlib's
`x/0 = 0` would otherwise make the algebra true or false for the wrong reason).
-/
namespace Spdc.Props.C06
open Spdc Spdc.PM

/-- T1. The integrand as a function `G(A1,…,A10)` of the ten coefficients is invariant under
`(A1,A2,A3,A4,A5,A7) ↦ (A3,A4,A1,A2,A7,A5)`: exponent, `denom1`, `denom2` and hence the value. -/
theorem G_symm (A : Coef ℝ) (g : A.Good) (w : ℝ) :
    A.exch.exponent = A.exponent ∧ A.exch.denom1 = A.denom1 ∧ A.exch.denom2 = A.denom2
      ∧ A.exch.integrand w = A.integrand w := by
  have hd1 : A.exch.denom1 = A.denom1 :=
    Cx.toC_injective (by rw [denom1_toC, denom1_toC]; simp only [Coef.exch]; ring)
  have hd2 : A.exch.denom2 = A.denom2 :=
    Cx.toC_injective (by rw [denom2_toC, denom2_toC]; simp only [Coef.exch]; ring)
  have he : A.exch.exponent = A.exponent := by
    apply Cx.toC_injective
    rw [exponent_toC, exponent_toC]
    exact expo_symm _ _ _ _ _ _ _ _ _ _ g.h1 g.h2 g.h3 g.h4 (denom1_toC A ▸ g.hd1)
      (denom2_toC A ▸ g.hd2)
  exact ⟨he, hd1, hd2, by unfold Coef.integrand; rw [he, hd1, hd2]⟩

/-- T2. The coefficient map commutes with the exchange:
`A1(swap S, ω_i, ω_s) = A3(S, ω_s, ω_i)`, … (one `chain` serves both beams). -/
theorem coeffs_swap (S : Setup ℝ) (ωs ωi z : ℝ) :
    coef S.swap ωi ωs z = (coef S ωs ωi z).exch := by
  simp only [coef, pre, Pre.coef, Coef.exch, Setup.swap, add_comm ωi ωs,
    add_comm (chain S.idl S.L ωi).gam4, add_comm (chain S.idl S.L ωi).del4,
    add_comm (chain S.idl S.L ωi).k (chain S.sig S.L ωs).k]

theorem pmIntegrand_swap (S : Setup ℝ) (ωs ωi z : ℝ) (g : Good S ωs ωi z) :
    pmIntegrand S.swap ωi ωs z = pmIntegrand S ωs ωi z := by
  unfold pmIntegrand
  rw [coeffs_swap]
  exact (G_symm _ g _).2.2.2

/-- T3. `jsa_raw` of the exchanged setup at `(ω_i, ω_s)` equals `jsa_raw` of the setup at
`(ω_s, ω_i)`, for every quadrature rule that is a fixed weighted sum of integrand values (Simpson,
Gauss–Legendre): the pump envelope depends on `ω_s + ω_i`, the support box on `|ω_s − ω_i|`. -/
theorem jsaRaw_swap (J : JSetup ℝ) (nodes : List (ℝ × ℝ)) (scale ωs ωi : ℝ)
    (g : ∀ p ∈ nodes, Good J.toSetup ωs ωi p.1) :
    jsaRaw J.swap nodes scale ωi ωs = jsaRaw J nodes scale ωs ωi := by
  unfold jsaRaw pmCoincQ
  rw [JSetup.swap_toSetup, quadSum_congr fun p hp => pmIntegrand_swap J.toSetup ωs ωi p.1 (g p hp),
    invalidFrequencies_comm, add_comm ωi ωs]
  rfl

/-- T4a. `jsi_normalization` is exchange symmetric. -/
theorem norm_swap (J : JSetup ℝ) (ωs ωi : ℝ) :
    jsiNormalization J.swap.normIn J.swap.sig J.swap.idl ωi ωs
      = jsiNormalization J.normIn J.sig J.idl ωs ωi :=
  jsiNormalization_swap J.normIn J.sig J.idl ωs ωi

/-- T4b. `JointSpectrum::jsa` — exact equality over ℝ (stronger than the stated 1e-6), in
magnitude and phase. -/
theorem jsa_swap (J : JSetup ℝ) (nodes : List (ℝ × ℝ)) (scale ωs ωi : ℝ)
    (g : ∀ p ∈ nodes, Good J.toSetup ωs ωi p.1) :
    jsa J.swap nodes scale ωi ωs = jsa J nodes scale ωs ωi := by
  unfold jsa jsaOfRaw
  rw [jsaRaw_swap J nodes scale ωs ωi g, norm_swap]

/-- T4c. `JointSpectrum::jsi`. -/
theorem jsi_swap (J : JSetup ℝ) (nodes : List (ℝ × ℝ)) (scale ωs ωi : ℝ)
    (g : ∀ p ∈ nodes, Good J.toSetup ωs ωi p.1) :
    jsi J.swap nodes scale ωi ωs = jsi J nodes scale ωs ωi := by
  unfold jsi jsiOfRaw
  rw [jsaRaw_swap J nodes scale ωs ωi g, norm_swap]

/-- T4d. `get_counts_correction` is exchange symmetric (signal and idler group indices enter as a
product). -/
theorem countsCorrection_swap (lp ls li ns ni np ngs ngi : ℝ) :
    countsCorrection lp li ls ni ns np ngi ngs = countsCorrection lp ls li ns ni np ngs ngi := by
  simp only [countsCorrection, lit_four]
  ring

/-- T4e. Coincidence rates are invariant: the rate of the exchanged setup over the exchanged grid
(visited in any order) equals the rate of the setup over the grid. -/
theorem rate_swap (J : JSetup ℝ) (nodes : List (ℝ × ℝ)) (scale corr dw2 : ℝ)
    (grid grid' : List (ℝ × ℝ)) (hperm : grid'.Perm (grid.map Prod.swap))
    (g : ∀ q ∈ grid, ∀ p ∈ nodes, Good J.toSetup q.1 q.2 p.1) :
    countsSum corr dw2 grid' (jsi J.swap nodes scale) = countsSum corr dw2 grid (jsi J nodes scale) :=
  countsSum_perm_swap corr dw2 hperm fun q hq => jsi_swap J nodes scale q.1 q.2 (g q hq)

/-- T5. The idler singles spectrum of a setup is, as coded (`jsi_singles_idler_range`,
`counts_singles_idler`), the signal singles spectrum of the exchanged setup with the arguments
exchanged — for every singles phase-matching function `sr`; and the idler singles rate of `J` over
`grid` is the signal singles rate of `swap J` over the exchanged grid (same correction factor by
T4d). -/
theorem idler_singles_def (sr : Setup ℝ → ℝ → ℝ → ℝ) (J : JSetup ℝ) (ωs ωi corr dw2 : ℝ)
    (grid grid' : List (ℝ × ℝ)) (hperm : grid'.Perm (grid.map Prod.swap)) :
    jsiSinglesIdler sr J ωs ωi = jsiSingles sr J.swap ωi ωs
      ∧ countsSum corr dw2 grid (jsiSinglesIdler sr J)
          = countsSum corr dw2 grid' (jsiSingles sr J.swap) :=
  ⟨rfl, (countsSum_perm_swap corr dw2 hperm fun _ _ => rfl).symm⟩

/-- T6a. The exchange is an involution. -/
theorem swap_involutive (J : JSetup ℝ) : J.swap.swap = J ∧ J.toSetup.swap.swap = J.toSetup :=
  ⟨JSetup.swap_swap J, Setup.swap_swap J.toSetup⟩

/-- T6b. `PMType::inverse` exchanges the signal and idler polarisations, keeps the pump's, and is
an involution (complete finite table). -/
theorem pmtype_inverse_table (t : PMType) :
    t.inverse.signalPol = t.idlerPol ∧ t.inverse.idlerPol = t.signalPol
      ∧ t.inverse.pumpPol = t.pumpPol ∧ t.inverse.inverse = t :=
  ⟨t.inverse_signalPol, t.inverse_idlerPol, t.inverse_pumpPol, t.inverse_inverse⟩

/-- T6c. In the exchanged setup the new signal is the old idler (beam, waist position, index
function) and vice versa; nothing else changes but the phase-matching type. -/
theorem swap_fields (S : Setup ℝ) :
    S.swap.sig = S.idl ∧ S.swap.idl = S.sig ∧ S.swap.pm = S.pm.inverse ∧ S.swap.L = S.L
      ∧ S.swap.wpx = S.wpx ∧ S.swap.wpy = S.wpy ∧ S.swap.nP = S.nP ∧ S.swap.rho = S.rho
      ∧ S.swap.keff = S.keff ∧ S.swap.apod = S.apod :=
  ⟨rfl, rfl, rfl, rfl, rfl, rfl, rfl, rfl, rfl, rfl⟩

/-- non-vacuity of T1: an asymmetric coefficient set that satisfies the guard -/
def exA : Coef ℝ :=
  ⟨⟨-1, 1⟩, ⟨-2, 0⟩, ⟨-3, 1⟩, ⟨-1, 2⟩, ⟨1, 1⟩, ⟨0, 1⟩, ⟨2, 0⟩, ⟨-1, 0⟩, ⟨-1, 1⟩, ⟨0, 5⟩⟩

example : exA.Good := by
  have ne : ∀ z : ℂ, z.re ≠ 0 → z ≠ 0 := fun z hz h => hz (by rw [h]; rfl)
  refine ⟨ne _ ?_, ne _ ?_, ne _ ?_, ne _ ?_, ne _ ?_, ne _ ?_⟩
  · norm_num [exA]
  · norm_num [exA]
  · norm_num [exA]
  · norm_num [exA]
  · rw [denom1_toC]; norm_num [exA, Cx.toC]
  · rw [denom2_toC]; norm_num [exA, Cx.toC]

/-! ## composed model

The theorems above are about the phase-matching layer with its inputs (indices, external angles,
walk-off, `k_eff`, apodisation) arbitrary.  The theorems below lift them to the COMPOSED model
(`Spdc/Model/Compose.lean`), whose only inputs are the primitive setup `Compose.Setup` (crystal id,
angles, wavelengths, waists, …) and which computes those layer inputs itself through the crystal,
index, beam and poling layers.  Assumptions of the lift: the idler is given explicitly
(`idlerAuto = false`; with `"auto"` the exchanged setup would recompute a different idler), and the
guard `Good` at the Simpson nodes as before. -/

/-- composed model, T2 lifted: the coefficient inputs computed from the primitives commute with the
exchange — the joint-spectrum view of the exchanged primitive setup is the exchanged view (same
principal indices, directions, external angles, waist positions; pump walk-off and `k_eff` untouched;
`PMType::inverse` hands each beam the other's polarization). -/
theorem compose_coeffs_swap (S : Compose.Setup ℝ) (h : S.idlerAuto = false) :
    Compose.jsetup S.swap = (Compose.jsetup S).map JSetup.swap :=
  Compose.jsetup_swap S h

/-- composed model: the integrand of the exchanged primitive setup at exchanged frequencies -/
theorem compose_pmIntegrand_swap (S : Compose.Setup ℝ) (h : S.idlerAuto = false) (ωs ωi z : ℝ)
    (g : ∀ J, Compose.jsetup S = .ok J → Good J.toSetup ωs ωi z) :
    Compose.pmIntegrand S.swap ωi ωs z = Compose.pmIntegrand S ωs ωi z := by
  unfold Compose.pmIntegrand
  rw [Compose.jsetup_swap S h, Outcome.map_map]
  exact Outcome.map_congr fun J hJ => pmIntegrand_swap J.toSetup ωs ωi z (g J hJ)

/-- composed model, T3/T4 lifted: `jsa_raw`, `jsa` (magnitude and phase) and `jsi` computed from the
primitive inputs through all layers are invariant under the exchange of the primitive signal and idler
records (wavelength, angles, waist, waist position; PM type inverted) together with the frequency
arguments — for every crystal, every Simpson division count (a panic for `divs < 5` is the same on
both sides). -/
theorem compose_jsa_swap (S : Compose.Setup ℝ) (h : S.idlerAuto = false) (divs : Nat) (ωs ωi : ℝ)
    (g : ∀ J r, Compose.jsetup S = .ok J → Compose.simpsonRule divs = .ok r →
      ∀ p ∈ r.1, Good J.toSetup ωs ωi p.1) :
    Compose.jsaRaw S.swap divs ωi ωs = Compose.jsaRaw S divs ωs ωi
      ∧ Compose.jsa S.swap divs ωi ωs = Compose.jsa S divs ωs ωi
      ∧ Compose.jsi S.swap divs ωi ωs = Compose.jsi S divs ωs ωi := by
  simp only [Compose.jsaRaw_eq, Compose.jsa_eq, Compose.jsi_eq]
  exact ⟨Compose.onSupport_swap S h fun J r hJ hr => jsaRaw_swap J r.1 r.2 ωs ωi (g J r hJ hr),
    Compose.onSupport_swap S h fun J r hJ hr => jsa_swap J r.1 r.2 ωs ωi (g J r hJ hr),
    Compose.onSupport_swap S h fun J r hJ hr => jsi_swap J r.1 r.2 ωs ωi (g J r hJ hr)⟩

/-- composed model: the two transcriptions of the Simpson z-integral (generic `math::simpson` of the
quadrature layer; the node list used by the joint-spectrum layer) give the same
`phasematch_fiber_coupling` on the composed view -/
theorem compose_pmCoinc_paths (S : Compose.Setup ℝ) (divs : Nat) (ωs ωi : ℝ)
    (h1 : ¬ divs + divs % 2 < 2) (h2 : ¬ divs + divs % 2 - 2 < 4) :
    Compose.pmCoinc S divs ωs ωi
      = (Compose.jsetup S).bind fun J => pmCoincSimpson J.toSetup divs ωs ωi := by
  unfold Compose.pmCoinc
  exact Outcome.bind_congr fun J _ => Compose.half_simpson_eq J.toSetup divs ωs ωi h1 h2

/-- non-vacuity of the composed statements: a concrete primitive setup with an explicit idler whose
exchange is a different setup -/
def exS : Compose.Setup ℝ :=
  { crystal := .KTP, cTheta := 1.5, cPhi := 0, L := 0.01, T := 293, counterProp := false,
    pm := .t2_e_eo, lamP := 775e-9, wpx := 1e-4, wpy := 1e-4, bandwidth := 1e-9, power := 1,
    threshold := 0.01, deff := 1e-12,
    sig := ⟨1500e-9, 0.01, 0, 5e-5, 5e-5, -0.003⟩, idl := ⟨1603e-9, 0.011, 3, 6e-5, 6e-5, -0.002⟩,
    idlerAuto := false, poling := .off }

example : exS.idlerAuto = false ∧ exS.swap.pm = .t2_e_oe ∧ exS.swap.sig.wx = 6e-5
    ∧ exS.swap.swap.pm = exS.pm := ⟨rfl, rfl, rfl, rfl⟩

end Spdc.Props.C06
