import Spdc.Real.ConfigFlow
import Spdc.Real.ComposeAutoLemmas
/-!
# C17 — invalid configurations give an error, never a panic or a non-finite setup

Property theorems only.  `tryAsSpdc` mirrors the repaired code (`fix:` commit for D7: early error
for `λs ≤ λp`); `tryAsSpdcG false` is the pinned tree, about which the theorems with `pinned` in
their name prove the violation.  `Ext` are the numeric sub-routines; `ExtNoPanic ext` says that
they do not panic by themselves (panics inside them are searched for on the real code, see
notes/C17.md; for the composed routines `composedExt` it is proved over ℝ, `compose_no_panic`).
-/
namespace Spdc.Props.C17
open Spdc Spdc.Cfg Spdc.Outcome
open Spdc.PM hiding Setup Beam twoPi sec cLight

/-- an outcome that neither panics nor is `ok` is an error -/
theorem err_of_np_of_not_ok {β : Type} {x : Outcome β} (h1 : NP x) (h2 : ∀ b, x ≠ .ok b) :
    ∃ e, x = .err e := by
  cases x with
  | ok b => exact absurd rfl (h2 b)
  | err e => exact ⟨e, rfl⟩
  | panic s => cases h1

/-- **T2.** `try_as_spdc` never panics, for every configuration (inside or outside the window) and
every non-panicking behaviour of the numeric sub-routines: behind the early `λs ≤ λp` error the
`unwrap()`s in `optimum_theta`, `compute_sign` and `optimum_poling_period` are unreachable. -/
theorem no_panic (cfg : Config ℝ) (ext : Ext ℝ) (hx : ExtNoPanic ext) :
    (tryAsSpdc cfg ext).isPanic = false :=
  np_bind (np_tryAsBeam hx) fun signal =>
  np_ite (fun _ => np_err _) fun hl =>
  have hl : lsLeLp signal _ = false := by simpa using hl
  np_bind (np_tryAsPoling hx hl) fun _ =>
  np_bind (np_thetaStep hx hl) fun _ =>
  np_bind (np_idlerStep hx) fun _ =>
  np_bind (np_waistPosition hx) fun _ =>
  np_bind (np_waistPosition hx) fun _ => np_ok _

/-- **T1a.** both or neither of the signal's internal and external angle is an error -/
theorem listed_signal_angles (cfg : Config ℝ) (ext : Ext ℝ)
    (h : cfg.signal.thetaDeg.isSome = cfg.signal.thetaExternalDeg.isSome) :
    tryAsSpdc cfg ext = .err "angles" := by
  unfold tryAsSpdc tryAsSpdcG BeamCfg.tryAsBeam
  cases h1 : cfg.signal.thetaDeg <;> cases h2 : cfg.signal.thetaExternalDeg <;>
    simp_all

/-- **T1b.** an "auto" crystal angle together with periodic poling is an error -/
theorem listed_auto_theta_with_poling (cfg : Config ℝ) (ext : Ext ℝ) (hx : ExtNoPanic ext)
    (ha : cfg.crystal.thetaDeg.isAuto = true) (hp : cfg.poling ≠ .off) :
    ∃ e, tryAsSpdc cfg ext = .err e := by
  apply err_of_np_of_not_ok (no_panic cfg ext hx)
  intro s hs
  obtain ⟨-, -, hpp, hc1, -⟩ := tryAsSpdcG_ok hs
  rcases thetaStep_ok hc1 with ⟨hna, _⟩ | ⟨_, hoff, _⟩
  · rw [ha] at hna; cases hna
  · exact hp ((tryAsPoling_off_iff hpp).mp hoff)

/-- **T1c.** a signal wavelength not longer than the pump's is an error, whatever else is set to
"auto" (crystal angle, poling period, idler, waist positions) -/
theorem listed_ls_le_lp (cfg : Config ℝ) (ext : Ext ℝ) (hx : ExtNoPanic ext)
    (hl : cfg.signal.wavelengthNm ≤ cfg.pump.wavelengthNm) :
    ∃ e, tryAsSpdc cfg ext = .err e := by
  apply err_of_np_of_not_ok (no_panic cfg ext hx)
  intro s hs
  obtain ⟨hsig, hg, -, -, -, -, -, hpump, -⟩ := tryAsSpdcG_ok hs
  have := (lsLeLp_iff hsig cfg.crystal.toSetup).mpr hl
  rw [← hpump, hg rfl] at this
  cases this

/-- **T1d.** when the optimiser reports that no poling period within the crystal length
phase-matches (C04), an "auto" poling period is an error -/
theorem listed_period_out_of_range (cfg : Config ℝ) (ext : Ext ℝ) (hx : ExtNoPanic ext)
    (apod : Apod ℝ) (hp : cfg.poling = .config .auto apod)
    (hper : ∀ signal, cfg.signal.tryAsBeam ext cfg.crystal.toSetup.pmType.signalPol
        cfg.crystal.toSetup = .ok signal →
      ∃ e, ext.period signal (cfg.pump.asBeam cfg.crystal.toSetup) cfg.crystal.toSetup = .err e) :
    ∃ e, tryAsSpdc cfg ext = .err e := by
  apply err_of_np_of_not_ok (no_panic cfg ext hx)
  intro s hs
  obtain ⟨hsig, hg, hpp, -, -, -, -, hpump, -⟩ := tryAsSpdcG_ok hs
  obtain ⟨e, he⟩ := hper s.signal hsig
  rw [hp, PolingCfg.tryAsPoling, optimumPolingPeriod_of_guard (hg rfl), hpump, he] at hpp
  cases hpp

/-- **T3 (partial: finiteness itself is a float notion).** On `ok`, every field of the setup is a
unit multiple of a configured value or the value of a numeric sub-routine, and poling is off
exactly when the configuration says so (so the period is "infinite" only then). -/
theorem ok_fields_partial (cfg : Config ℝ) (ext : Ext ℝ) (s : Setup ℝ)
    (h : tryAsSpdc cfg ext = .ok s) :
    s.pump = cfg.pump.asBeam cfg.crystal.toSetup ∧
    s.pumpBandwidth = cfg.pump.bandwidthNm * nano ∧
    s.pumpAveragePower = cfg.pump.averagePowerMw * 1.0 ∧
    s.deff = toDeff cfg.deffPmPerVolt ∧
    (s.pp.isOff = true ↔ cfg.poling = .off) ∧
    (s.crystal = cfg.crystal.toSetup ∨
      ∃ th, ext.theta cfg.crystal.toSetup s.signal s.pump = .ok th ∧
        s.crystal = { cfg.crystal.toSetup with theta := th }) ∧
    (idlerStep ext cfg s.signal s.pump s.crystal s.pp = .ok s.idler) ∧
    (waistPosition ext cfg.signal.waistPositionUm s.crystal s.signal = .ok s.signalWaistPos) ∧
    (waistPosition ext (idlerWaistCfg cfg) s.crystal s.idler = .ok s.idlerWaistPos) := by
  obtain ⟨-, hg, hpp, hc1, hid, hiwp, hswp, hpump, hbw, hpow, -, hdeff⟩ := tryAsSpdcG_ok h
  refine ⟨hpump, hbw, hpow, hdeff, tryAsPoling_off_iff hpp, ?_, hid, hswp, hiwp⟩
  rcases thetaStep_ok hc1 with ⟨_, hc⟩ | ⟨_, _, th, hth, hc⟩
  · exact Or.inl hc
  · exact Or.inr ⟨th, optimumTheta_of_guard (hg rfl) _ ▸ hth, hc⟩

/-! ## composed model

For the composed routines (`Compose.composedExt`, `Spdc/Model/ComposeAuto.lean`) the assumption
`ExtNoPanic ext` of `no_panic` is a theorem over ℝ (`Compose.extNoPanic_composed`): every cost handed
to the modelled Nelder–Mead is a real number, so `NM1D.run_spec` yields a value (Snell inverse, also
where it is nested in the crystal-angle cost); inside the period optimiser's bounds
`[f64::MIN_POSITIVE, L]` the trial period is positive, so `k_eff`'s `assert!` cannot fire; the rest
is straight-line code behind the wavelength guard.

Outside the theorem: IEEE NaN.  Over `f64` a cost can be NaN (an index far outside the Sellmeier
range, `asin` of an argument above 1) and argmin then fails — those panics exist in the real crate,
and the `Float` run of the same definitions reproduces them case by case (op `cmpa_from_config`,
malformed stream: identical PANIC sets). -/

/-- composed model, T2 with the `ExtNoPanic` hypothesis discharged: `try_as_spdc` with every numeric
sub-routine computed by the composed model never panics, for every configuration (over ℝ). -/
theorem compose_no_panic (cfg : Config ℝ) :
    (Compose.trySpdc cfg).isPanic = false ∧ (Compose.fromConfig cfg).isPanic = false := by
  have h := no_panic cfg Compose.composedExt Compose.extNoPanic_composed
  refine ⟨h, ?_⟩
  show NP ((Compose.trySpdc cfg).map (Compose.toCompose cfg))
  exact np_map _ h

/-- composed model, T1a–T1c with the concrete routines: those three kinds of configuration are
errors of the composed `try_as_spdc`, with no hypothesis on sub-routines left (T1d, whose hypothesis
is the period optimiser's answer, is not among them) -/
theorem compose_listed_errors (cfg : Config ℝ) :
    (cfg.signal.thetaDeg.isSome = cfg.signal.thetaExternalDeg.isSome →
      Compose.trySpdc cfg = .err "angles") ∧
    (cfg.crystal.thetaDeg.isAuto = true → cfg.poling ≠ .off → ∃ e, Compose.trySpdc cfg = .err e) ∧
    (cfg.signal.wavelengthNm ≤ cfg.pump.wavelengthNm → ∃ e, Compose.trySpdc cfg = .err e) :=
  ⟨listed_signal_angles cfg Compose.composedExt,
   listed_auto_theta_with_poling cfg Compose.composedExt Compose.extNoPanic_composed,
   listed_ls_le_lp cfg Compose.composedExt Compose.extNoPanic_composed⟩

/-! ## the pinned tree (no early guard) violated the statement — D7 -/

/-- a configuration with the signal given by its internal angle and `λs ≤ λp` -/
def BadWavelengths (cfg : Config ℝ) : Prop :=
  cfg.signal.thetaDeg.isSome = true ∧ cfg.signal.thetaExternalDeg = none ∧
    cfg.signal.wavelengthNm ≤ cfg.pump.wavelengthNm

theorem pinned_signal (cfg : Config ℝ) (ext : Ext ℝ) (hb : BadWavelengths cfg) :
    ∃ signal, cfg.signal.tryAsBeam ext cfg.crystal.toSetup.pmType.signalPol cfg.crystal.toSetup
        = .ok signal ∧ lsLeLp signal (cfg.pump.asBeam cfg.crystal.toSetup) = true := by
  obtain ⟨h1, h2, h3⟩ := hb
  obtain ⟨t, ht⟩ := Option.isSome_iff_exists.mp h1
  obtain ⟨b, hb⟩ : ∃ b, cfg.signal.tryAsBeam ext cfg.crystal.toSetup.pmType.signalPol
      cfg.crystal.toSetup = .ok b := by
    unfold BeamCfg.tryAsBeam; rw [ht, h2]; exact ⟨_, rfl⟩
  exact ⟨b, hb, (lsLeLp_iff hb _).mpr h3⟩

/-- **D7, witness 1.** `λs ≤ λp` with crystal angle "auto" and no poling panicked in
`optimum_theta`, for every behaviour of the sub-routines. -/
theorem pinned_panics_auto_theta (cfg : Config ℝ) (ext : Ext ℝ) (hb : BadWavelengths cfg)
    (ha : cfg.crystal.thetaDeg.isAuto = true) (hp : cfg.poling = .off) :
    tryAsSpdcG false cfg ext = .panic "optimum_theta:unwrap" := by
  obtain ⟨signal, hsig, hl⟩ := pinned_signal cfg ext hb
  simp only [tryAsSpdcG, hsig, bind_ok, Bool.false_and, Bool.false_eq_true, if_false, hp,
    PolingCfg.tryAsPoling, thetaStep, ha, if_true, Poling.isOff, optimumTheta, hl, map_panic,
    bind_panic]

/-- **D7, witness 2.** `λs ≤ λp` with any periodic-poling section panicked in `compute_sign`
(explicit period) or `optimum_poling_period` ("auto"). -/
theorem pinned_panics_poling (cfg : Config ℝ) (ext : Ext ℝ) (hb : BadWavelengths cfg)
    (per : Auto ℝ) (apod : Apod ℝ) (hp : cfg.poling = .config per apod) :
    (tryAsSpdcG false cfg ext).isPanic = true := by
  obtain ⟨signal, hsig, hl⟩ := pinned_signal cfg ext hb
  cases per <;>
    simp only [tryAsSpdcG, hsig, bind_ok, Bool.false_and, Bool.false_eq_true, if_false, hp,
      PolingCfg.tryAsPoling, optimumPolingPeriod, computeSign, hl, if_true, map_panic, bind_panic,
      Outcome.isPanic]

/-- …while an explicit crystal angle without poling and an "auto" idler already gave the clean
error. -/
theorem pinned_ls_le_lp_partial (cfg : Config ℝ) (ext : Ext ℝ) (hb : BadWavelengths cfg)
    (ha : cfg.crystal.thetaDeg.isAuto = false) (hp : cfg.poling = .off) (hi : cfg.idler = .auto) :
    tryAsSpdcG false cfg ext = .err "ls<=lp" := by
  obtain ⟨signal, hsig, hl⟩ := pinned_signal cfg ext hb
  simp only [tryAsSpdcG, hsig, bind_ok, Bool.false_and, Bool.false_eq_true, if_false, hp,
    PolingCfg.tryAsPoling, thetaStep, ha, idlerStep, hi, optimumIdler, hl, if_true, bind_err]

/-- sub-routines that answer with an error are a non-panicking `Ext` … -/
def errExt : Ext ℝ :=
  { snell := fun _ _ _ => .err "x", signNeg := fun _ _ _ => .err "x", period := fun _ _ _ => .err "x",
    theta := fun _ _ _ => .err "x", idler := fun _ _ _ _ => .err "x", waistPos := fun _ _ _ => .err "x" }

example : ExtNoPanic errExt := ⟨fun _ _ _ => rfl, fun _ _ _ => rfl, fun _ _ _ => rfl,
  fun _ _ _ => rfl, fun _ _ _ _ => rfl, fun _ _ _ => rfl⟩

/-- … and the crate's default configuration with the signal at 700 nm below the 775 nm pump
satisfies `BadWavelengths` with crystal angle "auto": the pinned flow panicked on it. -/
example : tryAsSpdcG false
    { (defaultConfig : Config ℝ) with
      signal := { (defaultConfig : Config ℝ).signal with wavelengthNm := 700 } } errExt
    = .panic "optimum_theta:unwrap" := by
  apply pinned_panics_auto_theta
  · refine ⟨rfl, rfl, ?_⟩
    show (700 : ℝ) ≤ (775.0 : ℝ)
    norm_num
  · rfl
  · rfl

end Spdc.Props.C17
