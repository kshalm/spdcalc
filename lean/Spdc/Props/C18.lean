import Spdc.Real.Sweep
import Spdc.Real.Outcome
/-!
# C18 — parameter-sweep setters change exactly the named configuration field

Property theorems only.  `setter` / `sweep` mirror the repaired code (`fix:` commits for D8 and
D11); the theorems with `pinned` in their name are about the flow of the pinned tree and prove that
it violated the statement.
-/
namespace Spdc.Props.C18
open Spdc Spdc.Cfg Spdc.Sweep Spdc.Grid

/-- **T1 (frame rule, all 25 paths).** For every path, base setup and value, the configuration of
the swept setup is the configuration of the base setup with exactly the field named by the path
replaced by `sigfigs` of the requested value in the path's unit (`target`: THz as 10¹² cycles/s
seen as the wavelength, external angle as the Snell-internal angle, poling period as magnitude);
errors and panics of the sub-routines propagate unchanged. -/
theorem setter_frame (ext : Ext ℝ) (p : Path) (s : Setup ℝ) (v : ℝ)
    (hs : WellFormed s) (hv : InRange p v) :
    (setter ext p s v).map asConfig
      = (target ext p s v).map fun x => (asConfig s).setField p (fieldRound p x) := by
  -- row by row: unfolding `setter` and `asConfig` leaves the field as `fieldRound` of the value read
  -- back, and the named identity says that this is the requested one
  cases p
  case crystalPhi | crystalTheta => exact frame_of_eq (deg_roundtrip v) rfl
  case crystalLength | signalWaist | signalWaistPosition | idlerWaist | idlerWaistPosition
      | pumpWaist => exact frame_of_eq (micro_roundtrip v) rfl
  case crystalTemperature => exact frame_of_eq (kelvin_roundtrip v) rfl
  case signalTheta | idlerTheta => exact frame_of_eq (theta_readback hv) rfl
  case signalPhi | idlerPhi => exact frame_of_eq (phi_readback hv) rfl
  case signalFrequency | idlerFrequency | pumpFrequency => exact frame_of_eq (thz_readback v) rfl
  case signalWavelength | idlerWavelength | pumpWavelength =>
    exact frame_of_eq (wavelength_readback v) rfl
  case pumpAveragePower => exact frame_of_eq (mw_roundtrip v) rfl
  case pumpBandwidth => exact frame_of_eq (nano_roundtrip v) rfl
  case deff => exact frame_of_eq (toDeff_roundtrip v) rfl
  -- the remaining paths ask a sub-routine and both sides map over its outcome;
  -- `set_theta_external` re-normalises the azimuth, which is normal already (`hs`)
  case signalThetaExternal | idlerThetaExternal =>
    simp only [setter, setterG, target, Beam.setThetaExternal, Beam.setAngles, Outcome.map_map, hs.1,
      hs.2]
    rfl
  case polingPeriod =>
    simp only [setter, setterG, target, assignPolingPeriod, Outcome.map_map, if_true, asConfig,
      asConfigG, withPeriod_toCfg, Config.setField, fieldRound]
    cases s.pp.toCfg <;> rfl

/-- the frame rule at a concrete field and value (`signalWaist`, 42), for any well-formed base: the
rule gives an `ok` configuration -/
example (ext : Ext ℝ) (s : Setup ℝ) (hs : WellFormed s) :
    (setter ext .signalWaist s 42).map asConfig
      = .ok ((asConfig s).setField .signalWaist (sigfigs 42)) :=
  setter_frame ext .signalWaist s 42 hs trivial

/-- the rounding of the named field: `sigfigs`, except that an azimuth rounding up to 360.0000 is
written as 0 (for 0 ≤ sigfigs v < 360 it is `sigfigs v`) -/
theorem fieldRound_eq (p : Path) (x : ℝ) :
    (p ≠ .signalPhi → p ≠ .idlerPhi → fieldRound p x = sigfigs x) ∧
    (0 ≤ sigfigs x → sigfigs x < 360 → fieldRound p x = sigfigs x) ∧
    (sigfigs x = 360 → (p = .signalPhi ∨ p = .idlerPhi) → fieldRound p x = 0) := by
  refine ⟨fun h1 h2 => ?_, fun h0 h1 => ?_, ?_⟩
  · unfold fieldRound
    split
    · exact absurd rfl h1
    · exact absurd rfl h2
    · rfl
  · unfold fieldRound
    split
    · exact wrap360_of_mem h0 h1
    · exact wrap360_of_mem h0 h1
    · rfl
  · rintro h (rfl | rfl) <;> exact (congrArg wrap360 h).trans wrap360_360

/-- **D8 (pinned tree).** With `v · 10¹²` stored as rad/s, `signal.frequency_thz = 200` reads back
as a wavelength 2π times too long (9418.26 nm instead of 1498.96 nm): the frame rule's value is
off by the factor 2π. -/
theorem frequency_thz_pinned_wrong (ext : Ext ℝ) (s : Setup ℝ) :
    ∃ s', setterG false true ext .signalFrequency s 200 = .ok s' ∧
      s'.signal.wavelength = 2 * Real.pi * (299792458 / (200 * 10 ^ 12)) ∧
      s'.signal.wavelength ≠ 299792458 / (200 * 10 ^ 12) := by
  have hw : freqToWl (thzToOmega false (200 : ℝ)) = 2 * Real.pi * (299792458 / (200 * 10 ^ 12)) := by
    rw [thzToOmega, if_neg Bool.false_ne_true, freqToWl_eq, twoPiC_eq,
      show (1.0e12 : ℝ) = 10 ^ 12 by norm_num, mul_div_assoc]
  refine ⟨_, rfl, hw, fun h => ?_⟩
  -- 2π·λ = λ with λ ≠ 0 would make 2π = 1
  have := mul_right_cancel₀ (by norm_num : (299792458 / (200 * 10 ^ 12) : ℝ) ≠ 0)
    ((hw.symm.trans h).trans (one_mul _).symm)
  linarith [Real.two_le_pi]

/-- **D11 (pinned tree).** On a base setup whose poling is off, the poling-period path was a
no-op: the swept configuration still says "off". -/
theorem poling_period_pinned_noop (ext : Ext ℝ) (s : Setup ℝ) (v : ℝ) (hoff : s.pp = .off)
    (neg : Bool) (hsign : computeSign ext s.signal s.pump s.crystal = .ok neg) :
    (setterG true false ext .polingPeriod s v).map asConfig = .ok (asConfig s) := by
  simp [setterG, assignPolingPeriod, hsign, hoff, Poling.assignPeriod, asConfig, asConfigG]

/-- … and the repaired code switches poling on with the requested magnitude -/
theorem poling_period_fixed (ext : Ext ℝ) (s : Setup ℝ) (v : ℝ) (hoff : s.pp = .off)
    (neg : Bool) (hsign : computeSign ext s.signal s.pump s.crystal = .ok neg) :
    (setter ext .polingPeriod s v).map (fun s' => (asConfig s').poling)
      = .ok (.config (.param (sigfigs |v|)) .off) := by
  simp only [setter, setterG, assignPolingPeriod, hsign, Outcome.map_ok, asConfig, asConfigG, if_true,
    withPeriod_toCfg]
  rw [hoff]; rfl

/-- "the poling period keeps its automatically derived sign": whatever sign the base setup's
poling carried, after the poling-period path the stored sign is the one `compute_sign` derives for
the setup the setter is applied to (which in a two-parameter sweep already has the first
parameter applied), and the stored magnitude is `|v|` µm. -/
theorem poling_sign_derived (ext : Ext ℝ) (s : Setup ℝ) (v : ℝ) (neg : Bool)
    (hsign : computeSign ext s.signal s.pump s.crystal = .ok neg) (hv : v ≠ 0) :
    ∃ s' a, setter ext .polingPeriod s v = .ok s' ∧ s'.pp = .on (|v| * micro) neg a := by
  have hq : 0 < |v| * micro := mul_pos (abs_pos.mpr hv) micro_pos
  have key : ∀ a : Apod ℝ, Poling.new (signMul neg (Transc.abs (v * micro))) a
      = .on (|v| * micro) neg a := fun a => by
    rw [abs_eq, abs_mul, abs_of_pos micro_pos, Poling.new_signMul hq.le, if_pos hq]
  refine ⟨{ s with pp := s.pp.withPeriod (signMul neg (Transc.abs (v * micro))) },
    (match s.pp with | .off => .off | .on _ _ a => a), ?_, ?_⟩
  · simp only [setter, setterG, assignPolingPeriod, hsign, Outcome.map_ok, if_true]
  · show s.pp.withPeriod (signMul neg (Transc.abs (v * micro))) = _
    cases s.pp <;> exact key _

/-- **T2.** every one of the 25 names is accepted and names its own path … -/
theorem known_accepted : ∀ p ∈ Path.all, Path.ofString p.name = some p := by decide +kernel

/-- … the table is complete … -/
theorem paths_complete : ∀ p : Path, p ∈ Path.all := by intro p; cases p <;> decide

/-- … and any other string is rejected, by `get_setter` and by `SPDCIter::try_new` in either
position. -/
theorem unknown_rejected (str : String) (h : ∀ p : Path, p.name ≠ str) :
    Path.ofString str = none ∧
      (∀ other, tryNew str other = .err "unknown-property") ∧
      (∀ other, (∃ q, Path.ofString other = some q) → tryNew other str = .err "unknown-property") := by
  have h1 : Path.ofString str = none := by
    unfold Path.ofString
    rw [List.find?_eq_none]
    intro p _
    simp [h p]
  refine ⟨h1, ?_, ?_⟩
  · intro other; simp [tryNew, h1]
  · rintro other ⟨q, hq⟩; simp [tryNew, h1, hq]

/-- **T3.** a two-parameter sweep has exactly `nx · ny` elements … -/
theorem sweep_length (ext : Ext ℝ) (p1 p2 : Path) (base : Setup ℝ) (steps : Steps2D ℝ) :
    (sweep ext p1 p2 base steps).length = steps.x.n * steps.y.n := by
  simp [sweep, Steps2D.collect, Steps2D.len]

/-- … and element `k` is the base with the first setter applied to the `k`-th grid value's first
coordinate and then the second setter to its second coordinate, where the grid is row-major with
the first parameter varying fastest (`Steps2D.value k` uses column `k % nx`, row `k / nx`). -/
theorem sweep_order (ext : Ext ℝ) (p1 p2 : Path) (base : Setup ℝ) (steps : Steps2D ℝ) (k : Nat)
    (hk : k < steps.x.n * steps.y.n) :
    (sweep ext p1 p2 base steps)[k]? =
      some ((setter ext p1 base (steps.value k).1).bind fun s1 => setter ext p2 s1 (steps.value k).2) := by
  simp [sweep, Steps2D.collect, Steps2D.len, sweepPoint, hk]

/-- `get_2d_indices`: flat index `k` is column `k % nx`, row `k / nx` -/
theorem sweep_index (steps : Steps2D ℝ) (k : Nat) :
    get2dIndices k steps.x.n = (k % steps.x.n, k / steps.x.n) := rfl

end Spdc.Props.C18
