import Spdc.Real.Index
/-!
# C02 — the index along a direction is the Fresnel wave-normal solution per polarisation; walk-off

Property theorems only (helper lemmas live in `Spdc/Real/Index.lean`).  All statements are about the
ℝ-instance of the executable model `Spdc/Model/Index.lean`, whose Float instance is compared with
`CrystalSetup::index_along`, `to_crystal_frame`, `roots::find_roots_quadratic`, `derivative_at` and
`Beam::walkoff_angle` on every check run.  Principal indices are arbitrary positive reals (C01 shows
the built-in crystals' indices lie in (1,4) on their windows).
-/
namespace Spdc.Props.C02
open Spdc Spdc.Index

/-- T1a. The discriminant of eq. (11) (sourced in `Real/Index.lean`) is non-negative for every unit
direction (squared direction cosines `u,v,w ≥ 0`, `u+v+w = 1`) and *any* real `bᵢ = 1/nᵢ²`. -/
theorem fresnel_disc_nonneg (u v w bx b_y bz : ℝ) (hu : 0 ≤ u) (hv : 0 ≤ v) (hw : 0 ≤ w)
    (h1 : u + v + w = 1) :
    0 ≤ fresnelB ⟨u, v, w⟩ ⟨bx, b_y, bz⟩ * fresnelB ⟨u, v, w⟩ ⟨bx, b_y, bz⟩
          - 4 * fresnelC ⟨u, v, w⟩ ⟨bx, b_y, bz⟩ :=
  UnitSq.disc_nonneg ⟨hu, hv, hw, h1⟩ _

/-- T1b. Both "return 0" exits of `index_along` are unreachable in exact arithmetic: the root finder
never reports `Roots::No`, and the selected `1/n²` is strictly positive. -/
theorem index_exits_unreachable (n : Vec3 ℝ) (hx : 0 < n.x) (hy : 0 < n.y) (hz : 0 < n.z)
    (θ φ : ℝ) (d : Vec3 ℝ) (hd : d.normSq = 1) (pol : Pol) :
    let s2 := sqVec (toCrystalFrame θ φ d)
    let r := quadRoots (1.0 : ℝ) (fresnelB s2 (invSq n)) (fresnelC s2 (invSq n))
    r ≠ Roots.no ∧ ∃ x, pickInvSq r pol none = some x ∧ 0 < x := by
  intro s2 r
  have hs : (toCrystalFrame θ φ d).normSq = 1 := by rw [toCrystalFrame_normSq, hd]
  have hp := pick_eq_spec _ _ ((unitSq_sqVec hs).disc_nonneg (invSq n)) pol none
  refine ⟨fun hno => ?_, _, hp, indexFromFrameSpec_radicand_pos hx hy hz hs pol⟩
  simp only [r, s2] at hno
  rw [hno] at hp
  cases hp

/-- T1c (refinement). Over ℝ the faithful form of `index_along` — both the repaired code and the
pinned tree's variant that returns 0 for `Roots::No` — equals the closed-form spec, and so does the
clamped evaluation of the spec that the driver runs in Float. -/
theorem indexAlong_refines_spec (n : Vec3 ℝ) (hx : 0 < n.x) (hy : 0 < n.y) (hz : 0 < n.z)
    (θ φ : ℝ) (d : Vec3 ℝ) (hd : d.normSq = 1) (pol : Pol) :
    indexAlong n θ φ d pol = indexAlongSpec n θ φ d pol ∧
    indexAlongPinned n θ φ d pol = indexAlongSpec n θ φ d pol ∧
    indexAlongSpecClamped n θ φ d pol = indexAlongSpec n θ φ d pol := by
  have hs : (toCrystalFrame θ φ d).normSq = 1 := by rw [toCrystalFrame_normSq, hd]
  have hdisc := (unitSq_sqVec hs).disc_nonneg (invSq n)
  refine ⟨indexFromFrame_eq_spec hx hy hz hs pol, ?_, ?_⟩
  · rw [indexAlongSpec, indexFromFrameSpec_eq]
    exact finish_pick _ _ hdisc pol (indexFromFrameSpec_radicand_pos hx hy hz hs pol).le none
  · simp only [indexAlongSpecClamped, indexAlongSpec, indexFromFrameSpec]
    rw [specInvSqClamped_eq _ _ hdisc]

/-- T2. `x = 1/N²` for the two returned indices are solutions of Fresnel's wave-normal equation
`Σ sᵢ²/(x − 1/nᵢ²) = 0` (denominators cleared; `fresnel_fraction_form` gives the fraction form away
from the poles) and there are no other solutions. -/
theorem roots_are_fresnel (n : Vec3 ℝ) (hx : 0 < n.x) (hy : 0 < n.y) (hz : 0 < n.z)
    (θ φ : ℝ) (d : Vec3 ℝ) (hd : d.normSq = 1) :
    let s2 := sqVec (toCrystalFrame θ φ d)
    let N := fun pol => indexAlong n θ φ d pol
    (∀ pol, fresnelCleared s2 (invSq n) (1 / (N pol * N pol)) = 0) ∧
    (∀ x, fresnelCleared s2 (invSq n) x = 0 →
      x = 1 / (N .ordinary * N .ordinary) ∨ x = 1 / (N .extraordinary * N .extraordinary)) := by
  intro s2 N
  have hs : (toCrystalFrame θ φ d).normSq = 1 := by rw [toCrystalFrame_normSq, hd]
  have hN : ∀ pol, 1 / (N pol * N pol)
      = specInvSq (fresnelB s2 (invSq n)) (fresnelC s2 (invSq n)) pol := by
    intro pol
    simp only [N, indexAlong]
    rw [indexFromFrame_eq_spec hx hy hz hs pol, indexFromFrameSpec_eq]
    exact one_div_sq_one_div_sqrt (indexFromFrameSpec_radicand_pos hx hy hz hs pol)
  have hu : UnitSq s2 := unitSq_sqVec hs
  constructor
  · intro pol
    rw [hN]
    exact hu.cleared_root _ pol
  · intro x hx0
    rw [hu.cleared_factor, mul_eq_zero, sub_eq_zero, sub_eq_zero] at hx0
    rwa [hN, hN]

/-- T3. `ordinary` is the slow (larger) and `extraordinary` the fast (smaller) index; both lie
between the smallest and the largest principal index, hence are positive. -/
theorem slow_fast (n : Vec3 ℝ) (hx : 0 < n.x) (hy : 0 < n.y) (hz : 0 < n.z)
    (θ φ : ℝ) (d : Vec3 ℝ) (hd : d.normSq = 1) :
    indexAlong n θ φ d .extraordinary ≤ indexAlong n θ φ d .ordinary ∧
    ∀ pol,
      (∀ m, 0 < m → m ≤ n.x → m ≤ n.y → m ≤ n.z → m ≤ indexAlong n θ φ d pol) ∧
      (∀ M, n.x ≤ M → n.y ≤ M → n.z ≤ M → indexAlong n θ φ d pol ≤ M) ∧
      0 < indexAlong n θ φ d pol := by
  have hs : (toCrystalFrame θ φ d).normSq = 1 := by rw [toCrystalFrame_normSq, hd]
  have e : ∀ pol, indexAlong n θ φ d pol = indexFromFrameSpec n (toCrystalFrame θ φ d) pol :=
    indexFromFrame_eq_spec hx hy hz hs
  simp only [e]
  exact ⟨indexFromFrameSpec_order hx hy hz hs, fun pol =>
    ⟨fun m hm => indexFromFrameSpec_ge hx hy hz hs pol hm,
     fun M => indexFromFrameSpec_le hx hy hz hs pol, indexFromFrameSpec_pos hx hy hz hs pol⟩⟩

/-- T4. Only the squared direction cosines enter: the index is unchanged when the (lab) direction is
reversed and when the crystal-frame direction is mirrored in any principal plane. -/
theorem reverse_mirror_invariant (n : Vec3 ℝ) (θ φ : ℝ) (d s : Vec3 ℝ) (pol : Pol) :
    indexAlong n θ φ ⟨-d.x, -d.y, -d.z⟩ pol = indexAlong n θ φ d pol ∧
    indexFromFrame n ⟨-s.x, s.y, s.z⟩ pol = indexFromFrame n s pol ∧
    indexFromFrame n ⟨s.x, -s.y, s.z⟩ pol = indexFromFrame n s pol ∧
    indexFromFrame n ⟨s.x, s.y, -s.z⟩ pol = indexFromFrame n s pol := by
  refine ⟨?_, ?_, ?_, ?_⟩
  · have : sqVec (toCrystalFrame θ φ ⟨-d.x, -d.y, -d.z⟩) = sqVec (toCrystalFrame θ φ d) := by
      rw [toCrystalFrame_eq, toCrystalFrame_eq]
      simp only [sqVec, Vec3.mk.injEq]
      refine ⟨?_, ?_, ?_⟩ <;> ring
    simp only [indexAlong, indexFromFrame, this]
  · simp only [indexFromFrame, sqVec, neg_mul_neg]
  · simp only [indexFromFrame, sqVec, neg_mul_neg]
  · simp only [indexFromFrame, sqVec, neg_mul_neg]

/-- T5. Uniaxial crystals (`n_x = n_y = n_o`, `n_z = n_e`): the quadratic factors as
`(x − 1/n_o²)(x − (w/n_o² + (1−w)/n_e²))`; one polarisation returns `n_o` for every direction, the
other obeys `1/n² = cos²ψ/n_o² + sin²ψ/n_e²` with `ψ` the angle from the optic axis; which is which
follows the sign of the birefringence. -/
theorem uniaxial_factor (no ne : ℝ) (hno : 0 < no) (hne : 0 < ne) (s : Vec3 ℝ) (hs : s.normSq = 1)
    (ψ : ℝ) (hψ : s.z = Real.cos ψ) :
    (∀ x, fresnelCleared (sqVec s) (invSq ⟨no, no, ne⟩) x
        = (x - 1 / (no * no)) * (x - ((sqVec s).z * (1 / (no * no)) + (1 - (sqVec s).z) * (1 / (ne * ne))))) ∧
    (ne ≤ no → indexFromFrame ⟨no, no, ne⟩ s .ordinary = no ∧
               indexFromFrame ⟨no, no, ne⟩ s .extraordinary = uniaxialIndex no ne ψ) ∧
    (no ≤ ne → indexFromFrame ⟨no, no, ne⟩ s .ordinary = uniaxialIndex no ne ψ ∧
               indexFromFrame ⟨no, no, ne⟩ s .extraordinary = no) := by
  have hu := unitSq_sqVec hs
  have hw1 : (sqVec s).z ≤ 1 := by linarith [hu.x, hu.y, hu.sum]
  obtain ⟨hB, hC⟩ := uniaxial_coeffs (sqVec s) (1 / (no * no)) (1 / (ne * ne)) hu.sum
  obtain ⟨e1, e2⟩ := specInvSq_of_roots (1 / (no * no))
    ((sqVec s).z * (1 / (no * no)) + (1 - (sqVec s).z) * (1 / (ne * ne)))
  refine ⟨fun x => ?_, ?_⟩
  · rw [invSq_eq, ← fresnel_quad hu.sum, hB, hC]; ring
  simp only [indexFromFrame_eq_spec (n := ⟨no, no, ne⟩) hno hno hne hs, indexFromFrameSpec_eq, invSq_eq,
    hB, hC, e1, e2, uniaxialIndex_eq, ← btheta_angle s no ne ψ hψ]
  constructor
  · intro hle
    have hcmp := le_convex hw1 (recip_sq_le hne hle)
    rw [min_eq_left hcmp, max_eq_right hcmp]
    exact ⟨one_div_sqrt_one_div_sq hno, rfl⟩
  · intro hle
    have hcmp := convex_le hw1 (recip_sq_le hno hle)
    rw [min_eq_right hcmp, max_eq_left hcmp]
    exact ⟨rfl, one_div_sqrt_one_div_sq hno⟩

/-- T6. A pump along lab `z` has crystal-frame polar angles exactly `(θ, φ)`, and the rotation into
the crystal frame preserves the norm. -/
theorem frame_of_z (θ φ : ℝ) :
    toCrystalFrame θ φ ⟨0, 0, 1⟩
      = ⟨Real.sin θ * Real.cos φ, Real.sin θ * Real.sin φ, Real.cos θ⟩ ∧
    ∀ v : Vec3 ℝ, (toCrystalFrame θ φ v).normSq = v.normSq := by
  refine ⟨?_, toCrystalFrame_normSq θ φ⟩
  rw [toCrystalFrame_eq]
  simp only [Vec3.mk.injEq]
  refine ⟨?_, ?_, ?_⟩ <;> ring

/-- T7. Exact walk-off for uniaxial crystals and a beam along `z` (crystal angle = angle from the
optic axis): for the direction-dependent polarisation `n(θ)` is differentiable in the crystal angle
with `−n′/n = ½ n² (1/n_e² − 1/n_o²) sin 2θ`, so `atan(−n′/n) = walkoffExact`; for the other
polarisation the index is constant (`n′ = 0`, walk-off 0). -/
theorem walkoff_uniaxial (no ne : ℝ) (hno : 0 < no) (hne : 0 < ne) (θ φ : ℝ) (dep indep : Pol)
    (hpol : (ne ≤ no ∧ dep = .extraordinary ∧ indep = .ordinary) ∨
            (no ≤ ne ∧ dep = .ordinary ∧ indep = .extraordinary)) :
    let f := fun t => indexAlong ⟨no, no, ne⟩ t φ ⟨0, 0, 1⟩ dep
    let g := fun t => indexAlong ⟨no, no, ne⟩ t φ ⟨0, 0, 1⟩ indep
    (∃ n', HasDerivAt f n' θ ∧
      -n' / f θ = 1 / 2 * (f θ * f θ) * (1 / (ne * ne) - 1 / (no * no)) * Real.sin (2 * θ) ∧
      Real.arctan (-n' / f θ) = walkoffExact no ne θ) ∧
    HasDerivAt g 0 θ ∧ Real.arctan (-0 / g θ) = 0 := by
  intro f g
  have key : ∀ t, indexAlong ⟨no, no, ne⟩ t φ ⟨0, 0, 1⟩ dep = uniaxialIndex no ne t ∧
      indexAlong ⟨no, no, ne⟩ t φ ⟨0, 0, 1⟩ indep = no := by
    intro t
    have hs : (toCrystalFrame t φ ⟨0, 0, 1⟩).normSq = 1 := by
      rw [toCrystalFrame_normSq]; simp [Vec3.normSq, Vec3.dot]
    have hψ : (toCrystalFrame t φ ⟨0, 0, 1⟩).z = Real.cos t := by rw [(frame_of_z t φ).1]
    obtain ⟨_, h1, h2⟩ := uniaxial_factor no ne hno hne _ hs t hψ
    rcases hpol with ⟨hle, rfl, rfl⟩ | ⟨hle, rfl, rfl⟩
    · exact ⟨(h1 hle).2, (h1 hle).1⟩
    · exact ⟨(h2 hle).1, (h2 hle).2⟩
  have hf : f = uniaxialIndex no ne := funext fun t => (key t).1
  have hg : g = fun _ => no := funext fun t => (key t).2
  have hpos := uniaxialIndex_pos no ne θ hno hne
  refine ⟨⟨_, hf ▸ uniaxialIndex_hasDerivAt no ne θ hno hne, ?_, ?_⟩, hg ▸ hasDerivAt_const θ no, by simp⟩
  · rw [hf, neg_mul, neg_neg, mul_div_cancel_left₀ _ hpos.ne']
  · rw [hf, neg_mul, neg_neg, mul_div_cancel_left₀ _ hpos.ne', walkoffExact_eq]

/-- T7b. The exact walk-off carries the sign of `n_o − n_e` on `(0, π/2)` and vanishes at `π/2`
(and at 0). -/
theorem walkoff_sign (no ne : ℝ) (hno : 0 < no) (hne : 0 < ne) (θ : ℝ) (h0 : 0 < θ)
    (h1 : θ < Real.pi / 2) :
    (0 < walkoffExact no ne θ ↔ ne < no) ∧ (walkoffExact no ne θ < 0 ↔ no < ne) ∧
    walkoffExact no ne (Real.pi / 2) = 0 ∧ walkoffExact no ne 0 = 0 := by
  have hn := uniaxialIndex_pos no ne θ hno hne
  have hsin : 0 < Real.sin (2 * θ) := Real.sin_pos_of_pos_of_lt_pi (by linarith) (by linarith)
  have hk : 0 < 1 / 2 * (uniaxialIndex no ne θ * uniaxialIndex no ne θ) := by positivity
  refine ⟨?_, ?_, ?_, ?_⟩
  · rw [walkoffExact_eq, Real.arctan_pos, mul_pos_iff_of_pos_right hsin, mul_pos_iff_of_pos_left hk,
      sub_pos, recip_sq_lt_iff hne hno]
  · -- `k·d·s < 0 ↔ 0 < k·(−d)·s`, then as before
    rw [walkoffExact_eq, Real.arctan_lt_zero, ← neg_pos, ← neg_mul, ← mul_neg,
      mul_pos_iff_of_pos_right hsin, mul_pos_iff_of_pos_left hk, neg_pos, sub_neg,
      recip_sq_lt_iff hno hne]
  · rw [walkoffExact_eq, mul_div_cancel₀ _ two_ne_zero, Real.sin_pi, mul_zero, Real.arctan_zero]
  · rw [walkoffExact_eq, mul_zero, Real.sin_zero, mul_zero, Real.arctan_zero]

/-- The coded walk-off (central difference, two `assert!`s) never panics in exact arithmetic, and its
denominator `n(θ)` is positive. -/
theorem walkoff_no_panic (n : Vec3 ℝ) (hx : 0 < n.x) (hy : 0 < n.y) (hz : 0 < n.z)
    (θ φ : ℝ) (d : Vec3 ℝ) (hd : d.normSq = 1) (pol : Pol) :
    (∃ ρ, walkoff n θ φ d pol = .ok ρ) ∧ 0 < indexAlong n θ φ d pol :=
  ⟨walkoff_isOk n θ φ d pol, ((slow_fast n hx hy hz θ φ d hd).2 pol).2.2⟩

/-- the hypotheses are satisfiable: BBO-like indices, a non-axial unit direction -/
example : ∃ (n : Vec3 ℝ) (d : Vec3 ℝ), 0 < n.x ∧ 0 < n.y ∧ 0 < n.z ∧ d.normSq = 1 ∧ d.x ≠ 0 :=
  ⟨⟨1.66, 1.66, 1.54⟩, ⟨3/5, 0, 4/5⟩, by norm_num, by norm_num, by norm_num,
    by simp only [Vec3.normSq, Vec3.dot]; norm_num, by norm_num⟩

/-- T5 instantiated: a direction 60° from the optic axis of a negative uniaxial crystal -/
example : indexFromFrame (⟨1.66, 1.66, 1.54⟩ : Vec3 ℝ) ⟨Real.sin (Real.pi / 3), 0, Real.cos (Real.pi / 3)⟩ .ordinary = 1.66 := by
  have h := uniaxial_factor 1.66 1.54 (by norm_num) (by norm_num)
    ⟨Real.sin (Real.pi / 3), 0, Real.cos (Real.pi / 3)⟩
    (by simp only [Vec3.normSq, Vec3.dot]; linear_combination Real.sin_sq_add_cos_sq (Real.pi / 3))
    (Real.pi / 3) rfl
  exact (h.2.1 (by norm_num)).1

end Spdc.Props.C02
