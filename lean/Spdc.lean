-- GENERATED by tools/gen.py — every module of the library
import Spdc.Model.Auto
import Spdc.Model.Beam
import Spdc.Model.Compose
import Spdc.Model.ComposeAuto
import Spdc.Model.ComposeGrid
import Spdc.Model.Config
import Spdc.Model.Counts
import Spdc.Model.CrystalText
import Spdc.Model.Crystals
import Spdc.Model.Cx
import Spdc.Model.DeltaK
import Spdc.Model.Grid
import Spdc.Model.GridProg
import Spdc.Model.Hom
import Spdc.Model.Index
import Spdc.Model.Jsa
import Spdc.Model.NM1D
import Spdc.Model.Norm
import Spdc.Model.Num
import Spdc.Model.Optimum
import Spdc.Model.PM
import Spdc.Model.PMType
import Spdc.Model.Poling
import Spdc.Model.Quad
import Spdc.Model.Schmidt
import Spdc.Model.Singles
import Spdc.Model.Sweep
import Spdc.Model.Units
import Spdc.Model.Wire
import Spdc.Real.Auto
import Spdc.Real.Beam
import Spdc.Real.ComposeAutoLemmas
import Spdc.Real.ComposeGridLemmas
import Spdc.Real.ComposeLemmas
import Spdc.Real.Config
import Spdc.Real.ConfigFlow
import Spdc.Real.Counts
import Spdc.Real.CrystalAxes
import Spdc.Real.CrystalCert
import Spdc.Real.CrystalCertData
import Spdc.Real.CrystalClass
import Spdc.Real.CrystalLemmas
import Spdc.Real.DeltaK
import Spdc.Real.Fixpoint
import Spdc.Real.GridLemmas
import Spdc.Real.GridProgLemmas
import Spdc.Real.HomLemmas
import Spdc.Real.Index
import Spdc.Real.Inst
import Spdc.Real.Jsa
import Spdc.Real.NM1D
import Spdc.Real.Optimum
import Spdc.Real.Outcome
import Spdc.Real.PM
import Spdc.Real.PMType
import Spdc.Real.PlaneWave
import Spdc.Real.Poling
import Spdc.Real.Quad
import Spdc.Real.QuadRule
import Spdc.Real.SchmidtLemmas
import Spdc.Real.Singles
import Spdc.Real.Sweep
import Spdc.Real.TwoSrcLemmas
import Spdc.Props.C01
import Spdc.Props.C02
import Spdc.Props.C03
import Spdc.Props.C04
import Spdc.Props.C05
import Spdc.Props.C06
import Spdc.Props.C07
import Spdc.Props.C08
import Spdc.Props.C09
import Spdc.Props.C10
import Spdc.Props.C11
import Spdc.Props.C12
import Spdc.Props.C13
import Spdc.Props.C14
import Spdc.Props.C15
import Spdc.Props.C16
import Spdc.Props.C17
import Spdc.Props.C18
import Spdc.Props.C19
import Spdc.Props.C20
import Spdc.Driver.All
import Spdc.Driver.Auto
import Spdc.Driver.Beam
import Spdc.Driver.Compose
import Spdc.Driver.ComposeAuto
import Spdc.Driver.ComposeGrid
import Spdc.Driver.Config
import Spdc.Driver.Counts
import Spdc.Driver.Crystal
import Spdc.Driver.DeltaK
import Spdc.Driver.Grid
import Spdc.Driver.GridProg
import Spdc.Driver.Hom
import Spdc.Driver.Index
import Spdc.Driver.NM
import Spdc.Driver.Optimum
import Spdc.Driver.PM
import Spdc.Driver.PMType
import Spdc.Driver.Poling
import Spdc.Driver.Quad
import Spdc.Driver.SweepExt
